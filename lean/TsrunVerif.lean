import TsrunVerif.Model.Coerce
import TsrunVerif.Model.Comb
import TsrunVerif.Model.Ctl
import TsrunVerif.Model.Emit
import TsrunVerif.Model.Erase
import TsrunVerif.Model.Ffi
import TsrunVerif.Model.Heap
import TsrunVerif.Model.Iso
import TsrunVerif.Model.Json
import TsrunVerif.Model.Lib
import TsrunVerif.Model.Life
import TsrunVerif.Model.Mod
import TsrunVerif.Model.Num
import TsrunVerif.Model.Obj
import TsrunVerif.Model.Ops
import TsrunVerif.Model.Orders
import TsrunVerif.Model.Parse
import TsrunVerif.Model.Path
import TsrunVerif.Model.Pos
import TsrunVerif.Model.Pratt
import TsrunVerif.Model.RegAlloc
import TsrunVerif.Model.Roots
import TsrunVerif.Model.Run
import TsrunVerif.Model.StepCost
import TsrunVerif.Model.Susp
import TsrunVerif.Lemmas.Assoc
import TsrunVerif.Lemmas.Emit
import TsrunVerif.Lemmas.Erase
import TsrunVerif.Lemmas.GlobalsAllow
import TsrunVerif.Lemmas.HeapCollect
import TsrunVerif.Lemmas.HeapMark
import TsrunVerif.Lemmas.HeapStep
import TsrunVerif.Lemmas.NarrowingAllow
import TsrunVerif.Lemmas.Path
import TsrunVerif.Lemmas.Pratt
import TsrunVerif.Lemmas.PrecSpec
import TsrunVerif.Lemmas.ReentrantAllow
import TsrunVerif.Lemmas.Roots
import TsrunVerif.Lemmas.VmFieldsAllow
import TsrunVerif.Gen.Globals
import TsrunVerif.Gen.Precedence
import TsrunVerif.Gen.Narrowing
import TsrunVerif.Gen.ParserLimits
import TsrunVerif.Gen.Reentrant
import TsrunVerif.Gen.TypeKinds
import TsrunVerif.Gen.VmFields
import TsrunVerif.Gen.ResetFields
import TsrunVerif.Props.C02Reset
import TsrunVerif.Props.C01
import TsrunVerif.Props.C01Parse
import TsrunVerif.Props.C01Coerce
import TsrunVerif.Props.C01Compile
import TsrunVerif.Props.C01Lib
import TsrunVerif.Props.C01Obj
import TsrunVerif.Props.C02
import TsrunVerif.Props.C03
import TsrunVerif.Props.C04
import TsrunVerif.Props.C05
import TsrunVerif.Props.C06
import TsrunVerif.Props.C06Compile
import TsrunVerif.Props.C07
import TsrunVerif.Props.C08
import TsrunVerif.Props.C08Comb
import TsrunVerif.Props.C09
import TsrunVerif.Props.C10
import TsrunVerif.Props.C11
import TsrunVerif.Props.C12
import TsrunVerif.Props.C13
import TsrunVerif.Props.C14
import TsrunVerif.Props.C15
import TsrunVerif.Props.C15Radix
import TsrunVerif.Props.C16
import TsrunVerif.Props.C17
import TsrunVerif.Props.C18
import TsrunVerif.Props.C19
import TsrunVerif.Props.C19Compile
import TsrunVerif.Props.C20
import TsrunVerif.Driver.Coerce
import TsrunVerif.Driver.Compile
import TsrunVerif.Driver.RadixLit
import TsrunVerif.Driver.Comb
import TsrunVerif.Driver.Emit
import TsrunVerif.Driver.Erase
import TsrunVerif.Driver.Ffi
import TsrunVerif.Driver.Heap
import TsrunVerif.Driver.Json
import TsrunVerif.Driver.Lib
import TsrunVerif.Driver.Life
import TsrunVerif.Driver.Mod
import TsrunVerif.Driver.Num
import TsrunVerif.Driver.Obj
import TsrunVerif.Driver.Ops
import TsrunVerif.Driver.Orders
import TsrunVerif.Driver.Parse
import TsrunVerif.Driver.Path
import TsrunVerif.Driver.Pos
import TsrunVerif.Driver.Pratt
import TsrunVerif.Driver.RegAlloc
import TsrunVerif.Driver.Roots
