import TsrunVerif.Model.RegAlloc
import TsrunVerif.Gen.Narrowing
import TsrunVerif.Lemmas.NarrowingAllow

/-!
# C10 — meaning does not depend on size

Property theorems over M-RegAlloc: for every allocator state a disciplined client can reach
(invariant `Inv`, kept by `alloc`, `reserve`, `restore` and by `free` of a register that is held;
a register freed twice breaks it) a register handed out is never a live one, windows are
contiguous, fresh and inside the 8-bit register file *or refused* — for every requested size
`n : Nat` — and a statement bracketed by `save … restore` leaves the allocator's
cursor where it was, whatever it allocated (no cumulative limit).  The constant pool never
returns an index that wraps 16 bits and indices stay valid when the pool grows.
-/
namespace TsrunVerif.RegAlloc

/-- `live` = registers the compiler currently holds. -/
def Inv (ra : RA) (live : List Nat) : Prop :=
  ra.next ≤ 255 ∧ (∀ r ∈ live, r < ra.next) ∧ (∀ r ∈ ra.free, r < ra.next ∧ r ∉ live) ∧
  ra.free.Nodup ∧ live.Nodup ∧ (∀ p ∈ ra.saved, p ≤ 255)

theorem inv_init : Inv RA.init [] := by
  simp [Inv, RA.init]

/-- the registers in use and the registers on the free list are distinct registers below the cursor -/
theorem inv_iff {ra : RA} {live : List Nat} : Inv ra live ↔
    ra.next ≤ 255 ∧ (live ++ ra.free).Nodup ∧ (∀ r ∈ live ++ ra.free, r < ra.next) ∧ ∀ p ∈ ra.saved, p ≤ 255 := by
  simp only [Inv, List.nodup_append, List.mem_append]
  constructor
  · rintro ⟨h1, h2, h3, h4, h5, h6⟩
    exact ⟨h1, ⟨h5, h4, fun a ha b hb e => (h3 b hb).2 (e ▸ ha)⟩, fun r hr => hr.elim (h2 r) fun h => (h3 r h).1, h6⟩
  · rintro ⟨h1, ⟨h5, h4, hd⟩, hb, h6⟩
    exact ⟨h1, fun r hr => hb r (.inl hr), fun r hr => ⟨hb r (.inr hr), fun hl => hd r hl r hr rfl⟩, h4, h5, h6⟩

/-- **a reserved window is contiguous, fresh and inside the register file.** -/
theorem reserve_fresh (ra ra' : RA) (live : List Nat) (n s : Nat) (hi : Inv ra live)
    (h : reserveRange ra n = some (s, ra')) :
    (∀ i, i < n → s + i ∉ live ∧ s + i < 255) ∧ Inv ra' (List.range' s n ++ live) := by
  obtain ⟨h1, hnd, hb, h6⟩ := inv_iff.mp hi
  unfold reserveRange at h
  split at h
  · cases h
  · rename_i hle
    cases h
    refine ⟨fun i hi' => ⟨fun hm => ?_, by omega⟩, inv_iff.mpr ⟨by simp only; omega, ?_, ?_, h6⟩⟩
    · have := hb _ (List.mem_append_left _ hm); omega
    · rw [List.append_assoc, List.nodup_append]
      refine ⟨List.nodup_range' (step := 1) (by omega), hnd, fun a ha b hb' e => ?_⟩
      have := List.mem_range'_1.mp ha
      have := hb b hb'
      omega
    · intro r hr
      rw [List.append_assoc] at hr
      rcases List.mem_append.mp hr with e | e
      · have := List.mem_range'_1.mp e; simp only; omega
      · have := hb r e; simp only; omega

/-- **alloc never hands out a live register**, stays inside the register file, keeps `Inv`. -/
theorem alloc_fresh (ra ra' : RA) (live : List Nat) (r : Nat) (hi : Inv ra live)
    (h : alloc ra = some (r, ra')) : r ∉ live ∧ r < 255 ∧ Inv ra' (r :: live) := by
  cases hf : ra.free with
  | nil =>
    -- with an empty free list `alloc` is `reserveRange 1`
    have hr : reserveRange ra 1 = some (r, ra') := by
      rw [← h]
      have := hi.1
      simp only [alloc, hf, reserveRange]
      by_cases hn : ra.next = 255
      · rw [if_pos hn, if_pos (by omega)]
      · rw [if_neg hn, if_neg (by omega)]
    obtain ⟨h0, hinv⟩ := reserve_fresh ra ra' live 1 r hi hr
    exact ⟨(h0 0 Nat.one_pos).1, (h0 0 Nat.one_pos).2, hinv⟩
  | cons a rest =>
    -- `a` moves from the free list to the registers in use
    obtain ⟨h1, hnd, hb, h6⟩ := inv_iff.mp hi
    simp only [alloc, hf, Option.some.injEq, Prod.mk.injEq] at h
    obtain ⟨rfl, rfl⟩ := h
    rw [hf] at hnd hb
    have hp : (a :: live ++ rest).Perm (live ++ a :: rest) := List.perm_middle.symm
    have ha := hb a (by simp)
    exact ⟨fun hl => (List.nodup_append.mp hnd).2.2 a hl a List.mem_cons_self rfl, by omega,
      inv_iff.mpr ⟨h1, hp.nodup_iff.mpr hnd, fun r hr => hb r (hp.mem_iff.mp hr), h6⟩⟩

/-- freeing a live register keeps the invariant (for the remaining live set). -/
theorem free_inv (ra : RA) (live : List Nat) (r : Nat) (hi : Inv ra live) (hr : r ∈ live) :
    Inv (free ra r) (live.erase r) := by
  obtain ⟨h1, hnd, hb, h6⟩ := inv_iff.mp hi
  have hrn := hb r (List.mem_append_left _ hr)
  -- `r` moves from the registers in use to the free list
  have hp : (live.erase r ++ r :: ra.free).Perm (live ++ ra.free) :=
    List.perm_middle.trans ((List.perm_cons_erase hr).symm.append_right _)
  unfold free
  split
  · -- the top register: the cursor drops onto it; every other register is below the old cursor and is not `r`
    rename_i he
    have hsub : (live.erase r ++ ra.free).Sublist (live.erase r ++ r :: ra.free) :=
      List.Sublist.append_left (List.sublist_cons_self ..) _
    refine inv_iff.mpr ⟨by simp only; omega, hsub.nodup (hp.nodup_iff.mpr hnd), fun x hx => ?_, h6⟩
    have hx' := hb x (hp.mem_iff.mp (hsub.subset hx))
    obtain ⟨_, hrf, hd⟩ := List.nodup_append.mp (hp.nodup_iff.mpr hnd)
    have hne : x ≠ r := (List.mem_append.mp hx).elim (fun e => hd x e r List.mem_cons_self)
      fun e h => (List.nodup_cons.mp hrf).1 (h ▸ e)
    simp only; omega
  · exact inv_iff.mpr ⟨h1, hp.nodup_iff.mpr hnd, fun x hx => hb x (hp.mem_iff.mp hx), h6⟩

/-- **window_sound (full statement)**: for *every* requested size the result is either a
refusal or a window of exactly `n` distinct fresh registers below 255 — a size beyond the
8-bit file cannot wrap. -/
theorem window_sound (ra : RA) (live : List Nat) (n : Nat) (hi : Inv ra live) :
    reserveFor ra n = none ∨
    ∃ s ra', reserveFor ra n = some (s, ra') ∧ n ≤ 255 ∧
      (∀ i, i < n → s + i ∉ live ∧ s + i < 255) ∧ Inv ra' (List.range' s n ++ live) := by
  unfold reserveFor
  split
  · left; rfl
  · rename_i hn
    cases hr : reserveRange ra n with
    | none => left; rfl
    | some p =>
      obtain ⟨s, ra'⟩ := p
      right
      have := reserve_fresh ra ra' live n s hi hr
      exact ⟨s, ra', rfl, by omega, this.1, this.2⟩

/-- sizes beyond the register file are always refused. -/
theorem oversize_refused (ra : RA) (n : Nat) (h : 255 < n) : reserveFor ra n = none := by
  simp [reserveFor, h]

/-! ## statements are register-neutral: no cumulative limit -/

/-- only `save` and `restore` touch the save stack -/
theorem step_saved (ra : RA) (op : Op) (h1 : op ≠ .save) (h2 : op ≠ .restore) :
    (step ra op).saved = ra.saved := by
  cases op with
  | alloc => cases hf : ra.free <;> by_cases h : ra.next = 255 <;> simp [step, alloc, hf, h]
  | free r => simp only [step, free]; split <;> rfl
  | reserve n =>
    by_cases h : n > 255 <;> by_cases h' : ra.next + n > 255 <;> simp [step, reserveFor, reserveRange, h, h']
  | save => exact absurd rfl h1
  | restore => exact absurd rfl h2

/-- nesting depth bookkeeping: `none` if a `restore` has no matching `save`. -/
def depthAfter : Nat → List Op → Option Nat
  | d, [] => some d
  | d, .save :: t => depthAfter (d + 1) t
  | 0, .restore :: _ => none
  | d + 1, .restore :: t => depthAfter d t
  | d, .alloc :: t => depthAfter d t
  | d, .free _ :: t => depthAfter d t
  | d, .reserve _ :: t => depthAfter d t

/-- the save stack is `ex ++ base` with one entry of `ex` per open `save`: `d` of them before `ops`, `d'` after -/
theorem saved_stack (ops : List Op) :
    ∀ (ra : RA) (ex base : List Nat) (d d' : Nat), ra.saved = ex ++ base → ex.length = d →
      depthAfter d ops = some d' → ∃ ex', (run ra ops).saved = ex' ++ base ∧ ex'.length = d' := by
  induction ops with
  | nil =>
    intro ra ex base d d' hs hl hd
    simp [depthAfter] at hd
    exact ⟨ex, by simpa [run] using hs, by omega⟩
  | cons op t ih =>
    intro ra ex base d d' hs hl hd
    simp only [run, List.foldl_cons]
    cases op with
    | save =>
      simp only [depthAfter] at hd
      exact ih (step ra .save) (ra.next :: ex) base (d + 1) d' (by simp [step, save, hs]) (by simp [hl]) hd
    | restore =>
      cases d with
      | zero => simp [depthAfter] at hd
      | succ d0 =>
        simp only [depthAfter] at hd
        cases ex with
        | nil => simp at hl
        | cons p ex0 =>
          refine ih (step ra .restore) ex0 base d0 d' ?_ (by simpa using hl) hd
          simp [step, restore, hs]
    | alloc | free _ | reserve _ =>
      simp only [depthAfter] at hd
      exact ih _ ex base d d' (by rw [step_saved _ _ (by simp) (by simp)]; exact hs) hl hd

/-- **no_cumulative_limit (full statement)**: whatever a statement does between the `save`
and the `restore` that bracket it (any allocations, frees, windows, properly nested inner
statements), afterwards the allocation cursor and the save stack are exactly what they were
before — so a sequence of statements uses no more registers than its hungriest member. -/
theorem stmt_neutral (ra : RA) (ops : List Op) (hb : depthAfter 0 ops = some 0) :
    (restore (run (save ra) ops)).next = ra.next ∧ (restore (run (save ra) ops)).saved = ra.saved := by
  obtain ⟨ex', hs, hl⟩ := saved_stack ops (save ra) [] (ra.next :: ra.saved) 0 0 (by simp [save]) rfl hb
  have hnil : ex' = [] := List.eq_nil_of_length_eq_zero hl
  subst hnil
  simp only [List.nil_append] at hs
  simp [restore, hs]

/-- and `restore` keeps the invariant for the registers that are still meaningful. -/
theorem restore_inv (ra : RA) (live : List Nat) (pos : Nat) (rest : List Nat) (hi : Inv ra live)
    (hs : ra.saved = pos :: rest) : Inv (restore ra) (live.filter (· < pos)) := by
  obtain ⟨h1, hnd, hb, h6⟩ := inv_iff.mp hi
  simp only [restore, hs]
  refine inv_iff.mpr ⟨h6 pos (by simp [hs]), ?_, fun x hx => ?_, fun p hp => h6 p (by simp [hs, hp])⟩
  · rw [← List.filter_append]; exact hnd.sublist List.filter_sublist
  · rw [← List.filter_append] at hx; simpa using (List.mem_filter.mp hx).2

/-! ## constant pool: 16-bit indices never wrap, earlier indices stay valid -/

theorem addConstant_sound (p p' : Pool) (c i : Nat) (h : addConstant p c = some (i, p')) :
    i < 65535 ∧ p'.consts[i]? = some c ∧ p'.consts = p.consts ++ [c] := by
  unfold addConstant at h
  split at h
  · simp at h
  · simp only [Option.some.injEq, Prod.mk.injEq] at h
    obtain ⟨hi, hp⟩ := h
    subst hi; subst hp
    refine ⟨by omega, by simp, rfl⟩

/-- **const_index_sound**: the index returned for a constant — new or re-used — is below
2^16 - 1 and addresses that constant; everything stored before is untouched. -/
theorem addDedup_sound (p p' : Pool) (c i : Nat) (hlen : p.consts.length ≤ 65535)
    (h : addDedup p c = some (i, p')) :
    i < 65535 ∧ p'.consts[i]? = some c ∧ (∃ extra, p'.consts = p.consts ++ extra) ∧
      p'.consts.length ≤ 65535 := by
  unfold addDedup at h
  simp only at h
  split at h
  · rename_i hlt
    simp only [Option.some.injEq, Prod.mk.injEq] at h
    obtain ⟨hi, hp⟩ := h
    subst hi; subst hp
    refine ⟨by omega, ?_, ⟨[], by simp⟩, hlen⟩
    rw [List.getElem?_eq_getElem hlt]
    simp [List.getElem_idxOf hlt]
  · have hlt : p.consts.length < 65535 := Nat.lt_of_not_ge fun hfull => by simp [addConstant, hfull] at h
    obtain ⟨h1, h2, h3⟩ := addConstant_sound p p' c i h
    exact ⟨h1, h2, ⟨[c], h3⟩, by rw [h3, List.length_append]; exact hlt⟩

/-- an index obtained earlier still addresses the same constant after the pool grew. -/
theorem index_stable (p : Pool) (extra : List Nat) (i c : Nat) (h : p.consts[i]? = some c) :
    (p.consts ++ extra)[i]? = some c := by
  rw [List.getElem?_append_left (List.getElem?_eq_some_iff.mp h).1]; exact h

/-! ## non-vacuity -/
example : Inv (run RA.init [.alloc, .alloc, .reserve 3, .free 0]) [1, 2, 3, 4] := by
  unfold Inv
  decide
example : depthAfter 0 [.alloc, .save, .reserve 200, .restore, .reserve 7, .free 3] = some 0 := by decide
example : (restore (run (save RA.init) [.reserve 200, .alloc, .save, .reserve 50, .restore])).next = 0 := by decide
example : reserveFor RA.init 300 = none ∧ (reserveFor RA.init 255).isSome ∧ reserveFor { RA.init with next := 1 } 255 = none := by
  decide

end TsrunVerif.RegAlloc

namespace TsrunVerif.Gen
/-- OBLIGATION over the inventory regenerated from /repo/src/compiler on every run: every narrowing cast
(`as u8`, `as u16`, `as JumpTarget`, …) of the compiler is one of the reviewed sites, each dominated by a size
check or a clamp - the theorems above are about the checked paths; a cast outside the list is a place where a
size can wrap silently. -/
theorem narrowing_reviewed :
    (narrowingSites.all (fun s => narrowingSites.count s == reviewedNarrowing.count s) &&
     reviewedNarrowing.all (fun s => narrowingSites.count s == reviewedNarrowing.count s)) = true := by
  -- normally the generated list is the reviewed one verbatim, which `rfl` sees without comparing a string (slow
  -- in the kernel); in another order the counts decide
  first
  | exact (have h : narrowingSites = reviewedNarrowing := rfl; by simp [h])
  | decide +kernel
end TsrunVerif.Gen
