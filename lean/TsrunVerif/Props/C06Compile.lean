import TsrunVerif.Lemmas.CompileTargets
import TsrunVerif.Lemmas.CompileEq

/-!
# C06 over M-Compile: a compiled program can never make the VM run off its code

For EVERY statement of the modelled core and every run of its compiled code - terminating or not,
whatever the values, however many instructions the host lets it execute - the program counter and
every catch target on the try stack stay inside the code, so no `step` ever faults: the host that
counts steps keeps control, the VM never indexes outside the instruction array.  (The terminating
case is `program_no_fault` of C01; this one needs no termination.)
-/

namespace TsrunVerif.Compile

section
variable {V Err : Type} (sem : Sem V Err)

/-- the program counter and the catch targets are positions of the code -/
def InCode (code : List Op) (s : St V) : Prop := s.pc < code.length ∧ ∀ t ∈ s.hs, t < code.length

/-- one sweep over the instructions for all that follows.  In particular no instruction faults, and one that
    raises does so in the state it was started in. -/
theorem exec1_cases (op : Op) (s : St V) :
    (∃ s', exec1 sem op s = .next s' ∧ (s'.pc = s.pc + 1 ∨ s'.pc ∈ opTargets op) ∧
      (s'.hs = s.hs ∨ (∃ t, t ∈ opTargets op ∧ s'.hs = t :: s.hs) ∨ s'.hs = s.hs.tail)) ∨
    exec1 sem op s = .halt s ∨ ∃ er, exec1 sem op s = .throw er s := by
  cases op
  case loadNull | loadUndef | loadBool | loadInt | loadConstNum | loadConstStr | tryGetVar | move | pushScope | popScope =>
    exact .inl ⟨_, rfl, .inl rfl, .inl rfl⟩
  case getVar d x | setVar x r | un o d r | bin o d l r =>
    dsimp only [exec1]
    split
    · exact .inl ⟨_, rfl, .inl rfl, .inl rfl⟩
    · exact .inr (.inr ⟨_, rfl⟩)
  case jump t => exact .inl ⟨_, rfl, .inr (.head _), .inl rfl⟩
  case jumpIfTrue c t =>
    refine .inl ⟨_, rfl, ?_, .inl rfl⟩
    show (if _ then t else _) = _ ∨ (if _ then t else _) ∈ [t]
    split
    · exact .inr (.head _)
    · exact .inl rfl
  case jumpIfFalse c t | jumpIfNotNullish c t =>
    refine .inl ⟨_, rfl, ?_, .inl rfl⟩
    show (if _ then _ else t) = _ ∨ (if _ then _ else t) ∈ [t]
    split
    · exact .inl rfl
    · exact .inr (.head _)
  case pushTry t => exact .inl ⟨_, rfl, .inl rfl, .inr (.inl ⟨t, .head _, rfl⟩)⟩
  case popTry => exact .inl ⟨_, rfl, .inl rfl, .inr (.inr rfl)⟩
  case throw_ r => exact .inr (.inr ⟨_, rfl⟩)
  case halt => exact .inr (.inl rfl)

/-- where a continuing instruction can go, and what it can do to the try stack -/
theorem exec1_next_shape (op : Op) (s s' : St V) (h : exec1 sem op s = .next s') :
    (s'.pc = s.pc + 1 ∨ s'.pc ∈ opTargets op) ∧
    (s'.hs = s.hs ∨ (∃ t, t ∈ opTargets op ∧ s'.hs = t :: s.hs) ∨ s'.hs = s.hs.tail) := by
  rcases exec1_cases sem op s with ⟨s₁, h₁, hsh⟩ | h₁ | ⟨er, h₁⟩ <;> rw [h₁] at h <;> cases h
  exact hsh

theorem stepH_cases (body : List Op) (hT : TgtLe body body.length) (s : St V) (hin : InCode (body ++ [.halt]) s) :
    (∃ s', stepH sem (body ++ [.halt]) s = .next s' ∧ InCode (body ++ [.halt]) s') ∨
    stepH sem (body ++ [.halt]) s = .halt s ∨ ∃ er, stepH sem (body ++ [.halt]) s = .throw er s := by
  obtain ⟨hpc, hhs⟩ := hin
  have hlen : (body ++ [Op.halt]).length = body.length + 1 := by simp
  unfold stepH
  rcases Nat.lt_or_ge s.pc body.length with hlt | hge
  · have hstep : step sem (body ++ [.halt]) s = exec1 sem body[s.pc] s := by
      unfold step; rw [List.getElem?_append_left hlt, List.getElem?_eq_getElem hlt]
    rw [hstep]
    have htg : ∀ t ∈ opTargets body[s.pc], t < (body ++ [Op.halt]).length := fun t ht => by
      have := hT _ (List.getElem_mem hlt) t ht
      omega
    rcases exec1_cases sem body[s.pc] s with ⟨s₁, he, h1, h2⟩ | he | ⟨er, he⟩ <;> rw [he]
    · refine .inl ⟨s₁, rfl, ?_, fun t ht => ?_⟩
      · rcases h1 with h1 | h1
        · omega
        · exact htg _ h1
      · rcases h2 with h2 | ⟨t', ht', h2⟩ | h2 <;> rw [h2] at ht
        · exact hhs t ht
        · rcases List.mem_cons.mp ht with rfl | ht
          · exact htg _ ht'
          · exact hhs t ht
        · exact hhs t (List.mem_of_mem_tail ht)
    · exact .inr (.inl rfl)
    · -- handler dispatch: the catch target comes off the try stack
      dsimp only
      cases hh : s.hs with
      | nil => exact .inr (.inr ⟨er, rfl⟩)
      | cons t rest =>
        rw [hh] at hhs
        exact .inl ⟨_, rfl, hhs t List.mem_cons_self, fun t' ht' => hhs t' (List.mem_cons_of_mem _ ht')⟩
  · have hstep : step sem (body ++ [.halt]) s = .halt s := by
      unfold step; rw [show s.pc = body.length by omega, List.getElem?_concat_length]; rfl
    rw [hstep]
    exact .inr (.inl rfl)

/-- one step of the VM with handler dispatch keeps the invariant -/
theorem stepH_inCode (body : List Op) (hT : TgtLe body body.length) (s s' : St V)
    (hin : InCode (body ++ [.halt]) s) (hs : stepH sem (body ++ [.halt]) s = .next s') :
    InCode (body ++ [.halt]) s' := by
  rcases stepH_cases sem body hT s hin with ⟨s₁, h₁, hin₁⟩ | h₁ | ⟨er, h₁⟩ <;> rw [h₁] at hs <;> cases hs
  exact hin₁

/-- a state inside the code never faults, however long it runs -/
theorem run_never_faults (body : List Op) (hT : TgtLe body body.length) :
    ∀ (k : Nat) (s : St V), InCode (body ++ [.halt]) s → run sem (body ++ [.halt]) k s ≠ some .fault
  | 0, s, _ => by simp [run]
  | k + 1, s, hin => by
    unfold run
    rcases stepH_cases sem body hT s hin with ⟨s₁, h₁, hin₁⟩ | h₁ | ⟨er, h₁⟩ <;> rw [h₁]
    · exact run_never_faults body hT k s₁ hin₁
    · simp
    · simp

/-- **the VM never runs off the code**: whatever statement was compiled, whatever the initial
    registers and environment, however many instructions are executed - also when the program never
    terminates - no run of the compiled program ends in a fault -/
theorem compiled_never_faults (s : Stmt) (code : List Op) (hc : compileProgram s = some code)
    (regs : Reg → V) (env : Env V) (k : Nat) : run sem code k ⟨0, regs, env, []⟩ ≠ some .fault := by
  obtain ⟨body, hb, rfl⟩ := compileProgram_some hc
  have hT := codeS_targets s 0 0 body hb
  rw [Nat.zero_add] at hT
  exact run_never_faults sem body hT k _ ⟨by simp, by simp⟩

end
end TsrunVerif.Compile
