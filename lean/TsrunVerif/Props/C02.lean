import TsrunVerif.Props.C13

/-!
# C02 — garbage collection is invisible (heap layer)

Over M-Heap: a collection is the identity on the sub-graph reachable from live guards — same
reachable set, same contents, same edges — so nothing that is read through a reachable handle
can tell whether, when or how often the collector ran; and it is idempotent.  Slot *identity* of
objects allocated after a collection may differ between schedules (a freed slot may be reused);
scripts cannot observe slot identity.
-/
namespace TsrunVerif.Heap

/-- a collection only ever pools; what it leaves non-pooled was reachable, so for an index one
step from the reachable graph (a root, a link of a reachable slot) the flag does not change. -/
theorem collect_pooledAt_iff (h : Heap) (j : Nat) (hj : pooledAt h j = false → Reach h j) :
    pooledAt (collect h) j = false ↔ pooledAt h j = false := by
  rw [collect_exact]
  exact ⟨reach_not_pooled h j, hj⟩

/-- **contents and edges of everything reachable are untouched** by a collection. -/
theorem collect_invisible (h : Heap) (i : Nat) (hr : Reach h i) :
    content (collect h) i = content h i ∧ (∀ j, j ∈ succs (collect h) i ↔ j ∈ succs h i) := by
  have hk := collect_keeps_reachable h i hr
  refine ⟨by simp [content, hk], fun j => ?_⟩
  rw [mem_succs, mem_succs, hk]
  exact exists_congr fun s => and_congr_right fun hs => and_congr_right fun hl =>
    collect_pooledAt_iff h j fun hp => .step hr ((mem_succs h i j).mpr ⟨s, hs, hl, hp⟩)

/-- roots are untouched too. -/
theorem collect_roots (h : Heap) (i : Nat) : i ∈ rootsOf (collect h) ↔ i ∈ rootsOf h := by
  rw [mem_rootsOf, mem_rootsOf, collect_guards]
  exact and_congr_right fun hg =>
    collect_pooledAt_iff h i fun hp => .root ((mem_rootsOf h i).mpr ⟨hg, hp⟩)

/-- **reachability is untouched by a collection** (both directions). -/
theorem collect_reach_iff (h : Heap) (i : Nat) : Reach (collect h) i ↔ Reach h i := by
  exact ⟨fun hr => (collect_exact h i).mp (reach_not_pooled _ i hr),
    fun hr => hr.mono (fun r hr => (collect_roots h r).mpr hr) fun a hra b hb => ((collect_invisible h a hra).2 b).mpr hb⟩

/-- the second collection finds every non-pooled slot marked. -/
theorem collect_collect (h : Heap) : collect (collect h) = collect h := by
  obtain ⟨m, hm, hc⟩ := collect_eq_sweep (collect h)
  rw [hc, sweep_of_all_marked _ m fun i hp =>
    (hm i).mpr ((collect_reach_iff h i).mpr ((collect_exact h i).mp hp))]
  obtain ⟨m₀, _, hc₀⟩ := collect_eq_sweep h
  rw [hc₀]; rfl

/-- **collecting twice is collecting once** as far as the reachable graph and the set of
reclaimed slots are concerned. -/
theorem collect_idempotent (h : Heap) (i : Nat) :
    pooledAt (collect (collect h)) i = pooledAt (collect h) i := by
  rw [collect_collect]

/-- **gc_transparent (per operation)**: an operation that does not write to slot `i` (an
allocation included) yields the same contents for a reachable slot `i` whether or not a
collection ran just before it. -/
theorem gc_transparent_step (h : Heap) (op : Op) (i : Nat) (hi : Inv h) (hr : Reach h i)
    (hw : ¬ op.writes i) :
    content (step (collect h) op) i = content (step h op) i := by
  rw [step_keeps_reachable (collect h) op i (inv_collect h hi) ((collect_reach_iff h i).mpr hr) hw,
    step_keeps_reachable h op i hi hr hw]
  exact (collect_invisible h i hr).1

/-! ## non-vacuity -/
example : Reach (collect demo) 1 :=
  (collect_reach_iff demo 1).mpr (Reach.step (i := 0) (Reach.root (by decide)) (by decide))

end TsrunVerif.Heap
