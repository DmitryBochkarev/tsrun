import TsrunVerif.Lemmas.Pratt
import TsrunVerif.Lemmas.PrecSpec

/-!
# C01 (operator grammar) — property theorems over M-Pratt

Mechanism named by the property: "Pratt parser precedence table — Parser::current_binary_op /
parse_binary_expression".  `Model/Pratt.lean` transcribes the loop; `Gen/Precedence.lean` is the
table of the CURRENT source (regenerated by `bin/extract` on every run).

* `parse_wellformed`, `parse_minimal_parens` — for EVERY operator table and EVERY expression tree
  (unbounded size and nesting) the loop recovers the tree from its minimally parenthesised text:
  precedence climbing implements exactly "tighter operators nest deeper; equal levels associate
  left, except the right-associative ones".
* `parse_order_iso` — the parse depends on the table only through the order of its numbers.
* `table_is_spec` — obligation over the generated table: it is order-isomorphic to ECMA-262's
  nesting of productions, `**` alone is right-associative, every token builds the node the
  specification names, the loop has the transcribed shape.
* `gen_parses_as_spec` — hence the current source's table parses EVERY token list exactly as the
  specification's table does.
-/
namespace TsrunVerif.Pratt
open TsrunVerif

/-- every tree the parser can build is recovered from its tokens -/
theorem parse_wellformed (t : Tbl) (e : E) (m : Nat) (rest : List Tok)
    (hwf : WF t e) (hroot : rootCond t m e) (hstop : Stops t m rest) :
    ∃ N, ∀ f, N ≤ f → parseBin t f m (yield e ++ rest) = some (e, rest) :=
  BinTo.fuel t ((parse_yield t e hwf).2 m rest _ hroot (.of_root t hroot hstop) (.stop t hstop))

/-- every abstract tree, printed with the fewest parentheses the table requires, parses back to
    itself (and the parenthesised tree erases to it) — for every table, size and nesting -/
theorem parse_minimal_parens (t : Tbl) (a : A) :
    (∃ N, ∀ f, N ≤ f → parseBin t f 0 (yield (parenthesize t a)) = some (parenthesize t a, [])) ∧
    erase (parenthesize t a) = a := by
  refine ⟨?_, erase_parenthesize t a⟩
  have := parse_wellformed t (parenthesize t a) 0 [] (wf_parenthesize t a) (rootCond_zero t _) trivial
  rwa [List.append_nil] at this

/-- order-isomorphic tables (same associativity flags) parse every token list alike -/
theorem parse_order_iso {t1 t2 : Tbl} (h : ∀ a b, t1.prec a < t1.prec b ↔ t2.prec a < t2.prec b)
    (hr : ∀ a, t1.rassoc a = t2.rassoc a) (f : Nat) (ts : List Tok) :
    parseBin t1 f 0 ts = parseBin t2 f 0 ts :=
  Option.ext fun x =>
    ⟨(parse_stable h hr f f (Nat.le_refl f)).1 0 0 ts x (.zero t1 t2),
     (parse_stable (fun a b => (h a b).symm) (fun a => (hr a).symm) f f (Nat.le_refl f)).1 0 0 ts x (.zero t2 t1)⟩

/-- OBLIGATION over the regenerated table: the table of the current source is the specification's -/
theorem table_is_spec : tableIsSpec = true := by decide +kernel

theorem levelOf_pos {tok : String} (h : tok ∈ specToks) : 0 < levelOf tok := by
  unfold levelOf
  split
  · omega
  · rename_i hf
    rw [List.findIdx?_eq_none_iff] at hf
    obtain ⟨l, hl, hm⟩ := List.mem_flatten.mp h
    simpa [hm] using hf l hl

private theorem gen_pos : ∀ p ∈ genPrecs, 0 < p := by decide

private theorem getD_mem {α} {l : List α} {k : Nat} (d : α) (h : k < l.length) : l.getD k d ∈ l := by
  simp [List.getD_eq_getElem?_getD, h]

/-- Below the table's length `tableIsSpec` compares the two tables: these are its conjuncts.
    Positivity is what lets an index beyond the table, where both tables say 0, stay below every
    real operator. -/
private theorem in_range {a : Nat} (ha : a < genToks.length) :
    (∀ b < genToks.length, (genTbl.prec a < genTbl.prec b ↔ specTblG.prec a < specTblG.prec b)) ∧
    genTbl.rassoc a = specTblG.rassoc a ∧ 0 < genTbl.prec a ∧ 0 < specTblG.prec a := by
  have h := table_is_spec
  unfold tableIsSpec at h
  simp only [Bool.and_eq_true, List.all_eq_true, List.mem_range, beq_iff_eq, decide_eq_decide,
    List.contains_iff_mem, and_assoc] at h
  obtain ⟨_, _, hs, ho, hr, _⟩ := h
  -- `tableIsSpec` speaks of `specTblG` unfolded (left to the unifier under `exact`, the unfolding is slow)
  simp only [specTblG]
  exact ⟨ho a ha, hr a ha, gen_pos _ (getD_mem 0 (by simpa [genToks, genPrecs] using ha)),
    levelOf_pos (hs _ (getD_mem "" ha))⟩

private theorem out_of_range {k : Nat} (h : genToks.length ≤ k) :
    genTbl.prec k = 0 ∧ specTblG.prec k = 0 ∧ genTbl.rassoc k = false ∧ specTblG.rassoc k = false := by
  have hl : Gen.binOpTable.length ≤ k := by simpa [genToks] using h
  simp only [genTbl, specTblG, genPrecs, genToks, genOps, List.getD_eq_getElem?_getD, List.getElem?_map,
    List.getElem?_eq_none hl, Option.map_none, Option.getD_none]
  decide +kernel

theorem gen_spec_order (a b : Nat) : genTbl.prec a < genTbl.prec b ↔ specTblG.prec a < specTblG.prec b := by
  by_cases hb : b < genToks.length
  · by_cases ha : a < genToks.length
    · exact (in_range ha).1 b hb
    · obtain ⟨g, s, _⟩ := out_of_range (Nat.le_of_not_lt ha)
      obtain ⟨_, _, pg, ps⟩ := in_range hb
      simp [g, s, pg, ps]
  · obtain ⟨g, s, _⟩ := out_of_range (Nat.le_of_not_lt hb)
    simp [g, s]

theorem gen_spec_assoc (a : Nat) : genTbl.rassoc a = specTblG.rassoc a := by
  by_cases ha : a < genToks.length
  · exact (in_range ha).2.1
  · obtain ⟨_, _, g, s⟩ := out_of_range (Nat.le_of_not_lt ha)
    rw [g, s]

/-- the table of the current source parses every token list exactly as ECMA-262's table does -/
theorem gen_parses_as_spec (f : Nat) (ts : List Tok) :
    parseBin genTbl f 0 ts = parseBin specTblG f 0 ts :=
  parse_order_iso gen_spec_order gen_spec_assoc f ts

/-! non-vacuity: concrete trees meet the hypotheses, and the familiar instances come out -/

/-- `a - b - c` (operator 20 = Minus) groups to the left, `a ** b ** c` (24) to the right,
    `a + b * c` nests the product -/
example : parseAll genTbl [.atom 0, .op 20, .atom 1, .op 20, .atom 2] =
    some (.bin 20 (.bin 20 (.atom 0) (.atom 1)) (.atom 2)) := by decide
example : parseAll genTbl [.atom 0, .op 24, .atom 1, .op 24, .atom 2] =
    some (.bin 24 (.atom 0) (.bin 24 (.atom 1) (.atom 2))) := by decide
example : parseAll genTbl [.atom 0, .op 19, .atom 1, .op 21, .atom 2] =
    some (.bin 19 (.atom 0) (.bin 21 (.atom 1) (.atom 2))) := by decide
example : WF genTbl (.bin 19 (.atom 0) (.bin 21 (.atom 1) (.atom 2))) ∧
    rootCond genTbl 0 (.bin 19 (.atom 0) (.bin 21 (.atom 1) (.atom 2))) ∧ Stops genTbl 0 [] := by
  simp [WF, leftCond, rightCond, rootCond, Stops]; decide
/-- `(a + b) * c` keeps its parentheses, `a + (b * c)` loses them -/
example : parenthesize genTbl (.bin 21 (.bin 19 (.atom 0) (.atom 1)) (.atom 2)) =
    .bin 21 (.paren (.bin 19 (.atom 0) (.atom 1))) (.atom 2) := by decide
example : parenthesize genTbl (.bin 19 (.atom 0) (.bin 21 (.atom 1) (.atom 2))) =
    .bin 19 (.atom 0) (.bin 21 (.atom 1) (.atom 2)) := by decide

end TsrunVerif.Pratt
