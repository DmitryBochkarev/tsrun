import TsrunVerif.Model.Run

/-!
# C19 — all ways of running a program agree (driver layer)
-/
namespace TsrunVerif.Run

/-- **map_result_eq**: the two copies of the result mapping agree on every terminal result and
every ledger state. -/
theorem map_result_eq (r : VmResult) (l : Ledger) : mapEval r l = mapStep r l := by
  cases r <;> rfl

theorem advance_add {S R : Type} (step : S → Sum S R) (n m : Nat) :
    ∀ s, advance step (n + m) s = match advance step n s with
      | .inl s' => advance step m s'
      | .inr r => .inr r := by
  induction n with
  | zero => intro s; simp [advance]
  | succ k ih =>
    intro s
    rw [Nat.add_right_comm k 1 m]  -- `k + m + 1`, the form `advance` unfolds on
    simp only [advance]
    cases step s with
    | inl s' => exact ih s'
    | inr r => rfl

/-- **run_eq_steps**: running `chunks.sum` instructions in one go, or in any partition into
chunks with pauses in between (one instruction at a time included), ends in the same state /
the same terminal result. -/
theorem run_eq_steps {S R : Type} (step : S → Sum S R) (chunks : List Nat) :
    ∀ s, driveChunks step chunks s = advance step chunks.sum s := by
  induction chunks with
  | nil => intro s; rfl
  | cons n t ih =>
    intro s
    simp only [driveChunks, List.sum_cons]
    rw [advance_add]
    cases advance step n s with
    | inl s' => exact ih s'
    | inr r => rfl

/-- single-stepping is the special case of all chunks being 1. -/
theorem single_steps_eq_run {S R : Type} (step : S → Sum S R) (k : Nat) (s : S) :
    driveChunks step (List.replicate k 1) s = advance step k s := by
  rw [run_eq_steps]; simp

/-- once terminal, further chunks change nothing (extra `step()` calls after the end are harmless
at this layer). -/
theorem terminal_stable {S R : Type} (step : S → Sum S R) (n m : Nat) (s : S) (r : R)
    (h : advance step n s = .inr r) : advance step (n + m) s = .inr r := by
  rw [advance_add, h]

/-- a run that has ended has ended so under every schedule that grants it as many instructions -/
theorem ended_under_every_schedule {S R : Type} (step : S → Sum S R) {k : Nat} {s : S} {r : R}
    (h : advance step k s = .inr r) (chunks : List Nat) (hle : k ≤ chunks.sum) :
    driveChunks step chunks s = .inr r := by
  obtain ⟨m, hm⟩ := Nat.exists_eq_add_of_le hle
  rw [run_eq_steps, hm]
  exact terminal_stable step k m s r h

/-! ## non-vacuity: a counter VM that halts at 5 -/
def demoStep : Nat → Sum Nat String := fun n => if n ≥ 5 then .inr s!"done{n}" else .inl (n + 1)
example : driveChunks demoStep [2, 0, 1, 7] 0 = .inr "done5" ∧ advance demoStep 10 0 = .inr "done5" := by decide
example : mapEval .complete ⟨true, false, false⟩ = .suspendedReportingPending := rfl

end TsrunVerif.Run
