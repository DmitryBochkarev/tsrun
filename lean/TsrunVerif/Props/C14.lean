import TsrunVerif.Lemmas.Roots
import TsrunVerif.Lemmas.HeapCollect

/-!
# C14 — garbage is reclaimed: repeated work does not grow the heap

Two layers.
* Heap layer (M-Heap, from C13): a collection reclaims *every* object that is not reachable from
  a live guard, cycles included (`collect_frees_unreachable`), and only those.
* Root layer (M-Roots): the scope-guard stack always holds exactly one guard per open scope and
  per call frame (`Inv`, kept by every event: `inv_run`, in `Lemmas/Roots.lean`), hence it is back
  at its starting height whenever a run has ended — by completing, by an uncaught error at any
  depth, or by returning/breaking out of any nesting of blocks (`roots_balanced`), and repeating a
  run any number of times leaves it unchanged (`repeat_constant`).
-/
namespace TsrunVerif.Roots

theorem inv_init (base : Nat) : Inv base { St.init with guards := base } := by
  simp [Inv, expected, St.init]

/-- **roots_balanced**: for every event sequence, when the run is over (no frame, no open
scope: it completed, or an uncaught error unwound everything) the guard stack is back at the
height it had before the run. -/
theorem roots_balanced (base : Nat) (evs : List Ev) (s : St) (h : Inv base s)
    (hdone : (run s evs).cur = 0 ∧ (run s evs).frames = []) : (run s evs).guards = base :=
  (inv_run base evs s h).guards_of_done hdone.1 hdone.2

/-- an uncaught error always ends the run in the balanced state, whatever was open. -/
theorem uncaught_balanced (base : Nat) (evs : List Ev) (s : St) (h : Inv base s) :
    (run s (evs ++ [.uncaught])).guards = base := by
  apply roots_balanced base _ s h
  simp [run, List.foldl_append, step]

theorem inv_repeat (base : Nat) (evs : List Ev) (s : St) (h : Inv base s) :
    ∀ n, Inv base (Nat.repeat (fun st => run st evs) n s) := by
  intro n
  induction n with
  | zero => exact h
  | succ m ihm => simp only [Nat.repeat]; exact inv_run base evs _ ihm

/-- **repeat_constant**: `k ≥ 1` repetitions of a run that ends leave the guard stack at its
starting height (so nothing the run rooted through scope guards survives it). -/
theorem repeat_constant (base : Nat) (evs : List Ev)
    (hend : ∀ s, Inv base s → (run s evs).cur = 0 ∧ (run s evs).frames = [])
    (k : Nat) (s : St) (h : Inv base s) :
    (Nat.repeat (fun st => run st evs) (k + 1) s).guards = base := by
  simp only [Nat.repeat]
  have hinv := inv_repeat base evs s h k
  exact roots_balanced base evs _ hinv (hend _ hinv)

end TsrunVerif.Roots

namespace TsrunVerif.Heap

/-- **collect_frees_unreachable**: after a collection every slot that no live guard reaches —
members of unreachable cycles included, since reachability is from the roots only — is pooled
(reset and reusable), and every reachable slot is untouched. -/
theorem collect_frees_unreachable (h : Heap) (i : Nat) (s : Slot) (hs : h.slots[i]? = some s) :
    (¬ Reach h i → pooledAt (collect h) i = true) ∧ (Reach h i → (collect h).slots[i]? = some s) := by
  constructor
  · intro hr
    cases hp : pooledAt (collect h) i with
    | true => rfl
    | false => exact absurd ((collect_exact h i).mp hp) hr
  · intro hr
    rw [collect_keeps_reachable h i hr]; exact hs

/-- a two-element cycle that nothing roots is reclaimed. -/
example : let h : Heap := { Heap.init with slots := [⟨1, [1], false⟩, ⟨2, [0], false⟩], guards := [⟨true, []⟩] }
    (collect h).slots = [⟨0, [], true⟩, ⟨0, [], true⟩] := by decide

end TsrunVerif.Heap

namespace TsrunVerif.Roots
/-! ## non-vacuity: return from nested blocks inside a call, then break out of a block -/
example : run { St.init with guards := 3 } [.pushScope, .call, .pushScope, .pushScope, .ret, .leaveTo 0] = { cur := 0, frames := [], guards := 3 } := by decide
example : Inv 3 { St.init with guards := 3 } := inv_init 3
end TsrunVerif.Roots
