import TsrunVerif.Model.Parse
import TsrunVerif.Gen.ParserLimits
/-!
C05 — every source text is accepted or rejected cleanly, in bounded time.
Property theorems over M-Parse (`Model/Parse.lean`): work of the speculative parse with and
without the failure memo, recursion depth under the guard, depth of loop-built chains.
-/
/-- OBLIGATION over the constants regenerated from the current source (`Gen/ParserLimits.lean`): releasing a
chain of `MAX_CHAIN` links (about 180 bytes of stack per link in an unoptimised build, says the source at
`MAX_CHAIN`; 192 are allowed for) fits the stack budget of the recursive descent, all five loops that build chains count their links and the three entry points
(statement, assignment expression, type) open an accounting scope. -/
theorem TsrunVerif.Gen.limits_sane :
    TsrunVerif.Gen.maxChain * 192 ≤ TsrunVerif.Gen.parserStackBudget ∧ 0 < TsrunVerif.Gen.maxChain ∧
    TsrunVerif.Gen.parserStackBudget ≤ 1024 * 1024 ∧ TsrunVerif.Gen.compilerStackBudget ≤ 1024 * 1024 ∧
    TsrunVerif.Gen.chainLinkSites = 5 ∧ TsrunVerif.Gen.chainScopeSites = 3 := by decide

namespace TsrunVerif.Parse

mutual
theorem costAgain_eq_size : ∀ s : Sk, costAgain s = size s
  | .node cs => congrArg (1 + ·) (costAgains_eq_sizes cs)
theorem costAgains_eq_sizes : ∀ cs : List Sk, costAgains cs = sizes cs
  | [] => rfl
  | c :: cs => by
      show costAgain c + costAgains cs = size c + sizes cs
      rw [costAgain_eq_size c, costAgains_eq_sizes cs]
end

theorem depth_pos : ∀ s : Sk, 1 ≤ depth s
  | .node cs => Nat.le_add_right 1 (depths cs)

mutual
theorem depth_le_size : ∀ s : Sk, depth s ≤ size s
  | .node cs => Nat.add_le_add_left (depths_le_sizes cs) 1
theorem depths_le_sizes : ∀ cs : List Sk, depths cs ≤ sizes cs
  | [] => Nat.le_refl 0
  | c :: cs => Nat.max_le.2 ⟨Nat.le_trans (depth_le_size c) (Nat.le_add_right ..),
      Nat.le_trans (depths_le_sizes cs) (Nat.le_add_left ..)⟩
end

mutual
/-- first visit with the failure memo: at most (number of constructs) × (nesting depth) -/
theorem costFirst_le : ∀ s : Sk, costFirst s ≤ size s * depth s
  | .node cs => by
      show 1 + costFirsts cs + costAgains cs ≤ (1 + sizes cs) * (1 + depths cs)
      have h := costFirsts_le cs
      rw [costAgains_eq_sizes, Nat.add_mul, Nat.mul_add, Nat.mul_add]
      omega
theorem costFirsts_le : ∀ cs : List Sk, costFirsts cs ≤ sizes cs * depths cs
  | [] => Nat.le_refl 0
  | c :: cs => by
      show costFirst c + costFirsts cs ≤ (size c + sizes cs) * max (depth c) (depths cs)
      rw [Nat.add_mul]
      exact Nat.add_le_add
        (Nat.le_trans (costFirst_le c) (Nat.mul_le_mul_left _ (Nat.le_max_left ..)))
        (Nat.le_trans (costFirsts_le cs) (Nat.mul_le_mul_left _ (Nat.le_max_right ..)))
end

/-- **Bounded work.** With the memo the speculative parse of any nesting structure costs at most
quadratically many construct visits. -/
theorem costFirst_quadratic (s : Sk) : costFirst s ≤ size s * size s :=
  Nat.le_trans (costFirst_le s) (Nat.mul_le_mul_left _ (depth_le_size s))

/-- **Without the memo the work is exponential**: `k` nested speculative constructs cost
`2^(k+1) - 1` visits. -/
theorem costNaive_chain (k : Nat) : costNaive (chain k) + 1 = 2 ^ (k + 1) := by
  induction k with
  | zero => simp [chain, costNaive, costNaives]
  | succ k ih =>
    simp only [chain, costNaive, costNaives, Nat.add_zero]
    rw [Nat.pow_succ]
    omega

theorem size_chain (k : Nat) : size (chain k) = k + 1 := by
  induction k with
  | zero => simp [chain, size, sizes]
  | succ k ih => simp only [chain, size, sizes, ih]; omega

mutual
/-- **Bounded recursion.** Whatever the input, the guarded descent never enters a level beyond
`limit + 1` (the level at which it notices and refuses). -/
theorem guard_bounds_recursion (limit : Nat) : ∀ (d : Nat) (s : Sk), reached limit d s ≤ max d (limit + 1)
  | d, .node cs => by
      show (if d ≤ limit then max d (reacheds limit (d + 1) cs) else d) ≤ max d (limit + 1)
      have := guard_bounds_recursions limit (d + 1) cs
      by_cases h : d ≤ limit
      · rw [if_pos h]; omega
      · rw [if_neg h]; exact Nat.le_max_left ..
theorem guard_bounds_recursions (limit : Nat) : ∀ (d : Nat) (cs : List Sk), reacheds limit d cs ≤ max d (limit + 1)
  | _, [] => Nat.zero_le _
  | d, c :: cs => Nat.max_le.2 ⟨guard_bounds_recursion limit d c, guard_bounds_recursions limit d cs⟩
end

/-- in `guards_accept_iff` the case of no children says nothing new once `d` itself fits -/
theorem nil_or_depths {cs : List Sk} {d L : Nat} (hd : d ≤ L) :
    (cs = [] ∨ d + depths cs ≤ L) ↔ d + depths cs ≤ L :=
  ⟨fun h => h.elim (fun e => e ▸ hd) id, .inr⟩

mutual
/-- **Clean acceptance / rejection.** The guarded descent accepts exactly the inputs whose nesting
fits: acceptance depends on the depth alone and is monotone in it. -/
theorem guard_accepts_iff (limit : Nat) : ∀ (d : Nat) (s : Sk), parseG limit d s = true ↔ d + depth s ≤ limit + 1
  | d, .node cs => by
      show (decide (d ≤ limit) && parseGs limit (d + 1) cs) = true ↔ d + (1 + depths cs) ≤ limit + 1
      rw [Bool.and_eq_true, decide_eq_true_eq, guards_accept_iff limit (d + 1) cs, ← Nat.add_assoc]
      constructor
      · intro ⟨h1, h2⟩
        exact (nil_or_depths (Nat.succ_le_succ h1)).1 h2
      · intro h
        exact ⟨Nat.le_of_succ_le_succ (Nat.le_trans (Nat.le_add_right ..) h), .inr h⟩
theorem guards_accept_iff (limit : Nat) : ∀ (d : Nat) (cs : List Sk),
    parseGs limit d cs = true ↔ (cs = [] ∨ d + depths cs ≤ limit + 1)
  | d, [] => ⟨fun _ => .inl rfl, fun _ => rfl⟩
  | d, c :: cs => by
      show (parseG limit d c && parseGs limit d cs) = true ↔
        (c :: cs = [] ∨ d + max (depth c) (depths cs) ≤ limit + 1)
      rw [Bool.and_eq_true, guard_accepts_iff limit d c, guards_accept_iff limit d cs, ← Nat.add_max_add_left,
        Nat.max_le]
      constructor
      · intro ⟨h1, h2⟩
        exact .inr ⟨h1, (nil_or_depths (Nat.le_trans (Nat.le_add_right ..) h1)).1 h2⟩
      · intro h
        have := h.resolve_left (List.cons_ne_nil c cs)
        exact ⟨this.1, .inr this.2⟩
end

/-- a loop that builds a chain of `n` links builds a tree of depth `n + 1`: bounding the number of
links (`MAX_CHAIN`) bounds the recursion of every later traversal. -/
theorem leftDeep_depth (n : Nat) : depth (leftDeep n) = n + 1 := by
  induction n with
  | zero => simp [leftDeep, depth, depths]
  | succ n ih =>
    simp only [leftDeep, depth, depths, ih]
    omega

theorem max_le_max_add {a b c d k : Nat} (h1 : a ≤ c + k) (h2 : b ≤ d + k) : max a b ≤ max c d + k :=
  Nat.max_le.2 ⟨Nat.le_trans h1 (Nat.add_le_add_right (Nat.le_max_left ..) k),
    Nat.le_trans h2 (Nat.add_le_add_right (Nat.le_max_right ..) k)⟩

mutual
/-- accounting invariant and bound: if the parser's accounting lets a tree through from state
`(l, n)` and ends in `(l', n')`, then the counters only grow, the depth the loops added is covered
by what was counted (`tdepth t + l ≤ rdepth t + l' + n'`), and the tree is at most `MAX_CHAIN`
deeper than the parser's own recursion. -/
theorem scan_inv (M : Nat) : ∀ (t : Tr) (l n l' n' : Nat), scan M t (l, n) = some (l', n') →
    l ≤ l' ∧ n ≤ n' ∧ tdepth t + l ≤ rdepth t + l' + n' ∧ tdepth t ≤ rdepth t + M
  | .leaf, l, n, l', n', h => by
      cases h
      exact ⟨Nat.le_refl _, Nat.le_refl _, Nat.le_add_right .., Nat.le_add_right ..⟩
  | .wrap cs, l, n, l', n', h => by
      obtain ⟨rfl, h2, h3, h4⟩ := scopes_inv M cs l n l' n' h
      simp only [tdepth, rdepth]
      omega
  | .chain hd ops, l, n, l', n', h => by
      simp only [scan] at h
      cases hh : scan M hd (l, n) with
      | none => simp [hh] at h
      | some st1 =>
        obtain ⟨l1, n1⟩ := st1
        simp only [hh] at h
        obtain ⟨a1, a2, a3, a4⟩ := scan_inv M hd l n l1 n1 hh
        obtain ⟨b1, b2, b3, b4⟩ := links_inv M ops l1 n1 l' n' (tdepth hd) (rdepth hd) l h a3 a1 a4
        exact ⟨Nat.le_trans a1 b1, Nat.le_trans a2 b2, b3, b4⟩
theorem scopes_inv (M : Nat) : ∀ (cs : List Tr) (l n l' n' : Nat), scanScopes M cs (l, n) = some (l', n') →
    l' = l ∧ n ≤ n' ∧ tdepths cs ≤ rdepths cs + n' ∧ tdepths cs ≤ rdepths cs + M
  | [], l, n, l', n', h => by
      cases h
      exact ⟨rfl, Nat.le_refl _, Nat.zero_le _, Nat.zero_le _⟩
  | c :: cs, l, n, l', n', h => by
      simp only [scanScopes] at h
      cases hc : scan M c (0, 0) with
      | none => simp [hc] at h
      | some tot =>
        obtain ⟨lc, nc⟩ := tot
        simp only [hc] at h
        obtain ⟨_, _, a3, a4⟩ := scan_inv M c 0 0 lc nc hc
        obtain ⟨b1, b2, b3, b4⟩ := scopes_inv M cs l (max n (lc + nc)) l' n' h
        have ⟨hn, hc⟩ := Nat.max_le.1 b2
        exact ⟨b1, hn, max_le_max_add (by omega) b3, max_le_max_add a4 b4⟩
/-- the links of one chain: `d` and `R` are the depth and the recursion depth of the chain built so far, `l0` the
count its scope held when the chain began -/
theorem links_inv (M : Nat) : ∀ (ops : List Tr) (l n l' n' d R l0 : Nat), scanLinks M ops (l, n) = some (l', n') →
    d + l0 ≤ R + l + n → l0 ≤ l → d ≤ R + M →
    l ≤ l' ∧ n ≤ n' ∧ spine d ops + l0 ≤ max R (1 + rdepths ops) + l' + n' ∧
      spine d ops ≤ max R (1 + rdepths ops) + M
  | [], l, n, l', n', d, R, l0, h, h1, h2, h3 => by
      cases h
      exact ⟨Nat.le_refl _, Nat.le_refl _,
        Nat.le_trans h1 (Nat.add_le_add_right (Nat.add_le_add_right (Nat.le_max_left ..) _) _),
        Nat.le_trans h3 (Nat.add_le_add_right (Nat.le_max_left ..) _)⟩
  | o :: os, l, n, l', n', d, R, l0, h, h1, h2, h3 => by
      simp only [scanLinks] at h
      by_cases hm : l + 1 + n > M
      · simp [hm] at h
      · simp only [hm, if_false] at h
        cases ho : scan M o (l + 1, n) with
        | none => simp [ho] at h
        | some st' =>
          obtain ⟨l2, n2⟩ := st'
          simp only [ho] at h
          obtain ⟨a1, a2, a3, a4⟩ := scan_inv M o (l + 1) n l2 n2 ho
          -- the level this link adds: under `d` it is paid by the link check `hm` through `h1` (`h3` alone is one
          -- short), under the operand by the operand's own bounds `a3`, `a4`
          have ⟨p1, p2, p3⟩ : 1 + max d (tdepth o) + l0 ≤ max R (1 + rdepth o) + l2 + n2 ∧ l0 ≤ l2 ∧
              1 + max d (tdepth o) ≤ max R (1 + rdepth o) + M := by omega
          obtain ⟨b1, b2, b3, b4⟩ := links_inv M os l2 n2 l' n' _ _ l0 h p1 p2 p3
          -- the tail's bound, taken from `max R (1 + rdepth o)`, is the whole list's bound taken from `R`
          rw [rdepths, ← Nat.add_max_add_left, ← Nat.max_assoc]
          exact ⟨Nat.le_trans (Nat.le_of_succ_le a1) b1, Nat.le_trans a2 b2, b3, b4⟩
end

/-- **Chains cannot stack through nested constructs**: whatever the parser's accounting accepts is
at most `MAX_CHAIN` levels deeper than the parser's own (guarded) recursion - for every tree,
however the chains are distributed over heads, operands and nested constructs. -/
theorem chain_accounting_bounds_depth (M : Nat) (t : Tr) (st : Nat × Nat)
    (h : scan M t (0, 0) = some st) : tdepth t ≤ rdepth t + M :=
  (scan_inv M t 0 0 st.1 st.2 h).2.2.2

theorem spine_replicate_leaf : ∀ (m x : Nat), 1 ≤ x → spine x (List.replicate m Tr.leaf) = x + m
  | 0, _, _ => rfl
  | m + 1, x, hx => by
    show spine (1 + max x 1) (List.replicate m Tr.leaf) = x + (m + 1)
    rw [spine_replicate_leaf m _ (Nat.le_add_right 1 _), Nat.max_eq_left hx]; omega

/-- the family the per-loop limit let through: `d` nested groups, each the head of a chain of `k`
links, have depth `d * (k + 1) + 1` with recursion depth `d + 1` only -/
theorem nestedChains_tdepth (k : Nat) : ∀ d, tdepth (nestedChains k d) = d * (k + 1) + 1
  | 0 => by rw [Nat.zero_mul]; rfl
  | d + 1 => by
      show spine (1 + max (tdepth (nestedChains k d)) 0) (List.replicate k Tr.leaf) = (d + 1) * (k + 1) + 1
      rw [spine_replicate_leaf k _ (Nat.le_add_right 1 _), nestedChains_tdepth k d, Nat.max_zero, Nat.succ_mul]
      omega

-- non-vacuity: 4 groups x 9990 links were accepted by a per-loop limit of 10000; the accounting refuses them,
-- and accepts what stays within the limit
example : (scan 40 (nestedChains 10 3) (0, 0)).isSome = true := by decide
example : (scan 40 (nestedChains 10 5) (0, 0)).isSome = false := by decide
example : tdepth (nestedChains 9990 4) = 39965 := by rw [nestedChains_tdepth]

-- non-vacuity / concrete values
example : costNaive (chain 24) = 33554431 := by decide
example : costFirst (chain 24) = 325 := by decide
example : parseG 10 0 (chain 10) = true ∧ parseG 10 0 (chain 11) = false := by decide

end TsrunVerif.Parse
