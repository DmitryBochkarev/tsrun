import TsrunVerif.Model.Coerce

/-!
# C01 (operators over objects) — property theorems over M-Coerce

"all operator x operand-type combinations": what happens when an operand is an object is decided by
ToPrimitive; the theorems hold for every behaviour of `valueOf` / `toString` / `[Symbol.toPrimitive]`.
-/
namespace TsrunVerif.Coerce
open TsrunVerif.Ops

/-! ### OrdinaryToPrimitive over any list of methods -/

/-- the methods are called in the order given, each at most once -/
theorem ordinary_log_sublist (o : ObjB) : ∀ ms : List (Char × Beh),
    List.Sublist (ordinary o ms).2 (ms.map fun p => (o.name, p.1))
  | [] => List.Sublist.slnil
  | (c, b) :: rest => by
    have ih := ordinary_log_sublist o rest
    cases b with
    | absent => exact ih.cons _
    | ret v => exact (List.nil_sublist _).cons_cons _
    | throws t => exact (List.nil_sublist _).cons_cons _
    | retObj => exact ih.cons_cons _

theorem ordinary_two (o : ObjB) (c₁ c₂ : Char) (b₁ b₂ : Beh) (hc : c₁ ≠ c₂) :
    (ordinary o [(c₁, b₁), (c₂, b₂)]).2.length ≤ 2 ∧ (ordinary o [(c₁, b₁), (c₂, b₂)]).2.Nodup :=
  have h := ordinary_log_sublist o [(c₁, b₁), (c₂, b₂)]
  ⟨h.length_le, h.nodup (by simp [hc])⟩

/-- a method that is there is called first -/
theorem ordinary_head (o : ObjB) (c : Char) (b : Beh) (rest : List (Char × Beh)) (hb : b ≠ .absent) :
    (ordinary o ((c, b) :: rest)).2.head? = some (o.name, c) := by
  cases b <;> first | rfl | exact absurd rfl hb

/-- `[Symbol.toPrimitive]`, when present, is the only method called -/
theorem toPrim_exclusive (h : Hint) (o : ObjB) (hp : o.toPrim ≠ .absent) :
    (toPrimitive h (.obj o)).2 = [(o.name, 'p')] := by
  unfold toPrimitive
  cases hb : o.toPrim <;> simp_all

/-- hint string asks `toString` first, the other hints ask `valueOf` first -/
theorem string_hint_toString_first (o : ObjB) (hp : o.toPrim = .absent) (hs : o.toString ≠ .absent) :
    (toPrimitive .string (.obj o)).2.head? = some (o.name, 's') := by
  unfold toPrimitive
  simp only [hp, if_true]
  exact ordinary_head o _ _ _ hs

theorem number_hint_valueOf_first (h : Hint) (hh : h ≠ .string) (o : ObjB) (hp : o.toPrim = .absent) (hv : o.valueOf ≠ .absent) :
    (toPrimitive h (.obj o)).2.head? = some (o.name, 'v') := by
  unfold toPrimitive
  simp only [hp, hh, if_false]
  exact ordinary_head o _ _ _ hv

/-- the second method is not called when the first one returns a primitive -/
theorem first_primitive_suffices (h : Hint) (hh : h ≠ .string) (o : ObjB) (hp : o.toPrim = .absent) (v : V)
    (hv : o.valueOf = .ret v) : toPrimitive h (.obj o) = (.ok v, [(o.name, 'v')]) := by
  unfold toPrimitive
  simp [hp, hh, hv, ordinary]

/-- each method is called at most once: the log has at most two entries and they differ -/
theorem calls_at_most_once (h : Hint) (x : Operand) : (toPrimitive h x).2.length ≤ 2 ∧ (toPrimitive h x).2.Nodup := by
  cases x with
  | prim v => simp [toPrimitive]
  | obj o =>
    unfold toPrimitive
    cases hp : o.toPrim with
    | ret v => simp [hp]
    | retObj => simp [hp]
    | throws t => simp [hp]
    | absent =>
      simp only [hp]
      split <;> exact ordinary_two o _ _ _ _ (by decide)

/-- no primitive can be obtained: TypeError (never an object as the result) -/
theorem no_primitive_typeError (h : Hint) (o : ObjB) (hp : o.toPrim = .absent)
    (hv : o.valueOf = .retObj ∨ o.valueOf = .absent) (hs : o.toString = .retObj ∨ o.toString = .absent) :
    (toPrimitive h (.obj o)).1 = .typeError := by
  unfold toPrimitive
  simp only [hp]
  split <;> (rcases hv with hv | hv <;> rcases hs with hs | hs <;> simp [hv, hs, ordinary])

/-- operands are converted LEFT first, and the right one is not touched when the left one fails -/
theorem both_left_first (h : Hint) (a b : Operand) :
    ∃ lb, (both h a b).2 = (toPrimitive h a).2 ++ lb ∧
      ((∀ x, (toPrimitive h a).1 ≠ .ok x) → lb = []) := by
  unfold both
  cases ha : toPrimitive h a with
  | mk ra la =>
    cases ra with
    | ok x =>
      cases hb : toPrimitive h b with
      | mk rb lb =>
        cases rb <;> exact ⟨lb, by simp, fun hne => absurd rfl (hne x)⟩
    | typeError => exact ⟨[], by simp, fun _ => rfl⟩
    | thrown t => exact ⟨[], by simp, fun _ => rfl⟩

/-- `===` / `!==` never call user code -/
theorem strict_never_converts (a b : Operand) : (binary "===" a b).2 = [] ∧ (binary "!==" a b).2 = [] := by
  constructor <;> (unfold binary; cases a <;> cases b <;> simp)

/-- an object is never loosely equal to null / undefined, and is not converted to find that out -/
theorem nullish_eq_no_convert (o : ObjB) (y : V) (hy : y = .undef ∨ y = .null) :
    binary "==" (.obj o) (.prim y) = (.ok (.bool false), []) ∧ binary "==" (.prim y) (.obj o) = (.ok (.bool false), []) := by
  rcases hy with rfl | rfl <;> (constructor <;> simp [binary])

/-- primitives pass through unchanged: on primitive operands the operators are exactly M-Ops -/
theorem prim_passthrough (op : String) (x y : V) (r : V) (h : binop op x y = some r) :
    binary op (.prim x) (.prim y) = (.ok r, []) := by
  unfold binary
  by_cases h1 : op = "===" ∨ op = "!=="
  · simp [h1, h]
  · by_cases h2 : op = "==" ∨ op = "!="
    · simp [h1, h2, h]
    · simp [h1, h2, both, toPrimitive, h]

-- non-vacuity: the familiar cases
example : binary "+" (.obj ⟨1, .ret (.num (.int 5)), .ret (.str "s"), .absent⟩) (.prim (.str "x")) = (.ok (.str "5x"), [(1, 'v')]) := by decide
example : unary "String" (.obj ⟨1, .ret (.num (.int 5)), .ret (.str "s"), .absent⟩) = (.ok (.str "s"), [(1, 's')]) := by decide
example : binary "<" (.obj ⟨1, .retObj, .ret (.str "10"), .absent⟩) (.obj ⟨2, .throws 7, .absent, .absent⟩) = (.thrown 7, [(1, 'v'), (1, 's'), (2, 'v')]) := by decide
example : (binary "==" (.obj ⟨1, .ret (.num (.int 1)), .absent, .absent⟩) (.prim (.bool true))).1 = .ok (.bool true) := by decide

end TsrunVerif.Coerce
