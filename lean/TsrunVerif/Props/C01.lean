import TsrunVerif.Model.Ops
import TsrunVerif.Model.Ctl
/-!
C01 — programs in the supported core evaluate as ECMAScript specifies.
Property theorems over M-Ops (operators and coercions on primitives) and M-Ctl (completion
records).  The models are transcriptions of the specification; the theorems are the laws the
specification implies for every operand / every program of the modelled fragment; the check runs
the models and the real interpreter (and the reference engine) on the same operands and programs.
-/
namespace TsrunVerif.Ops

theorem beq_num_comm (a b : Num) : (a == b) = (b == a) := BEq.comm

theorem numEq_symm (a b : Num) : numEq a b = numEq b a := by
  cases a <;> cases b <;> simp only [numEq, Bool.and_comm, beq_num_comm]

/-- `===` and `==` are symmetric for all primitive operands -/
theorem strictEq_symm (a b : V) : strictEq a b = strictEq b a := by
  cases a <;> cases b <;> simp [strictEq, numEq_symm, Bool.beq_comm]

theorem looseEq_symm (a b : V) : looseEq a b = looseEq b a := by
  cases a <;> cases b <;> simp [looseEq, strictEq, numEq_symm, Bool.beq_comm]

/-- `===` implies `==` -/
theorem looseEq_of_strictEq (a b : V) (h : strictEq a b = true) : looseEq a b = true := by
  cases a <;> cases b <;> simp_all [looseEq, strictEq]

/-- NaN equals nothing, not even itself -/
theorem nan_never_equal (v : V) : strictEq (.num .nan) v = false ∧ looseEq (.num .nan) v = false := by
  cases v <;> exact ⟨rfl, rfl⟩

/-- `null == v` holds exactly for `null` and `undefined` -/
theorem null_looseEq_iff (v : V) : looseEq .null v = true ↔ (v = .null ∨ v = .undef) := by
  cases v <;> simp [looseEq, strictEq]

/-- `typeof` of a primitive is one of five strings (and `typeof null` is "object") -/
theorem typeOf_closed (v : V) : typeOf v ∈ ["undefined", "object", "boolean", "number", "string"] := by
  cases v <;> simp [typeOf]

/-- a string operand makes `+` a concatenation, whatever the other operand -/
theorem plus_string_left (a : String) (v : V) : plus (.str a) v = .str (a ++ toStr v) := by
  cases v <;> rfl
theorem plus_string_right (v : V) (b : String) (h : ∀ a, v ≠ .str a) : plus v (.str b) = .str (toStr v ++ b) := by
  cases v <;> rfl

/-- number addition is commutative, negation an involution -/
theorem add_comm (a b : Num) : add a b = add b a := by
  cases a with
  | int x => cases b with
    | int y => exact congrArg Num.int (Int.add_comm x y)
    | _ => rfl
  | _ => cases b <;> rfl
theorem neg_neg (n : Num) : neg (neg n) = n := by
  cases n with
  | int z => by_cases h : z = 0 <;> simp [neg, h]
  | _ => rfl

theorem numLt_self (n : Num) : (numLt n n).getD false = false := by
  cases n with
  | int z => simp [numLt]
  | _ => rfl

/-- nothing is less than itself -/
theorem lt_irrefl (v : V) : opLt v v = false := by
  cases v with
  | str s => simp [opLt, lessThan, strLt]
  | _ => simp only [opLt, lessThan, numLt_self]

/-- a NaN operand leaves IsLessThan undefined, on either side and whatever the other operand -/
theorem lessThan_nan (v : V) : lessThan (.num .nan) v = none ∧ lessThan v (.num .nan) = none := by
  have hr (n : Num) : numLt n .nan = none := by cases n <;> rfl
  constructor
  · cases v <;> rfl
  · cases v <;> simp only [lessThan, toNumber, hr]

/-- with a NaN operand every relational operator is false -/
theorem nan_relational_false (v : V) (h : ∀ s, v ≠ .str s) :
    opLt (.num .nan) v = false ∧ opGt (.num .nan) v = false ∧ opLe (.num .nan) v = false ∧ opGe (.num .nan) v = false := by
  simp only [opLt, opGt, opLe, opGe, lessThan_nan v, Option.getD_none, and_self]

/-! The laws below are laws of the functions of M-Ops; `binop` / `unop` only select one of them by the
operator's spelling, which `rfl` / `show` / the expected type of a `congrArg` decides by evaluating the one
string comparison (`simp [binop]` would rewrite with all of `binop`'s equations). -/

/-- `!` is ToBoolean negated; `!!v` is ToBoolean -/
theorem not_not (v : V) : (unop "!" v).bind (unop "!") = some (.bool (toBoolean v)) :=
  congrArg (some ∘ V.bool) (Bool.not_not _)

/-! ### equivalent forms: the spellings a program may choose between denote the same value -/

theorem num_sub_zero (n : Num) : sub n (.int 0) = n := by
  cases n <;> rfl
theorem num_mul_one (n : Num) : mul n (.int 1) = n := by
  cases n with
  | int z =>
    by_cases hz : z = 0
    · subst hz; rfl
    · simp [mul, isZero, hz]
  | _ => rfl
theorem num_neg_eq_mul (n : Num) : neg n = mul n (.int (-1)) := by
  cases n with
  | int z =>
    by_cases hz : z = 0
    · subst hz; rfl
    · simp [mul, neg, isZero, hz]
  | _ => rfl

/-- `+v`, `v - 0` and `v * 1` are the same number (−0 included) -/
theorem unary_plus_forms (v : V) :
    unop "+" v = binop "-" v (.num (.int 0)) ∧ unop "+" v = binop "*" v (.num (.int 1)) :=
  ⟨congrArg (some ∘ V.num) (num_sub_zero _).symm, congrArg (some ∘ V.num) (num_mul_one _).symm⟩

/-- `-v` is `v * -1` (but not `0 - v`: that loses the sign of zero) -/
theorem neg_eq_mul_minus_one (v : V) : unop "-" v = binop "*" v (.num (.int (-1))) :=
  congrArg (some ∘ V.num) (num_neg_eq_mul _)
theorem neg_ne_zero_minus : unop "-" (.num (.int 0)) ≠ binop "-" (.num (.int 0)) (.num (.int 0)) := by decide

/-- `a > b` is `b < a`, `a >= b` is `b <= a`, `!=` / `!==` are the negations of `==` / `===` -/
theorem swapped_relational (a b : V) : binop ">" a b = binop "<" b a ∧ binop ">=" a b = binop "<=" b a :=
  ⟨rfl, rfl⟩
theorem negated_equality (a b : V) :
    binop "!=" a b = (binop "==" a b).bind (unop "!") ∧ binop "!==" a b = (binop "===" a b).bind (unop "!") :=
  ⟨rfl, rfl⟩

/-- `a <= b` is `!(b < a)` exactly when no NaN is involved; with one it is false where `!(b < a)` is true -/
theorem le_is_not_gt (a b : V) (h : lessThan b a ≠ none) : binop "<=" a b = (binop "<" b a).bind (unop "!") := by
  show some (V.bool (opLe a b)) = some (V.bool (!opLt b a))
  rw [opLe, opLt]
  cases hl : lessThan b a with
  | none => exact absurd hl h
  | some r => rfl

theorem toUint32_lt (n : Num) : toUint32 n < 4294967296 := by
  cases n with
  | int z => exact (Int.toNat_lt' (by decide)).mpr (Int.emod_lt_of_pos z (by decide))
  | _ => decide

theorem signed32_range (u : Nat) (h : u < 4294967296) : -2147483648 ≤ signed32 u ∧ signed32 u < 2147483648 := by
  simp only [signed32, two31, two32]
  omega

/-- ToInt32 always lands in [−2^31, 2^31) -/
theorem toInt32_range (n : Num) : -2147483648 ≤ toInt32 n ∧ toInt32 n < 2147483648 :=
  signed32_range _ (toUint32_lt n)

theorem toUint32_natCast (u : Nat) (h : u < 4294967296) : toUint32 (.int (u : Int)) = u := by
  have e : (u : Int) % 4294967296 = (u : Int) := Int.emod_eq_of_lt (by omega) (by omega)
  simp [toUint32, two32, e]

/-- the signed and the unsigned reading of 32 bits determine each other -/
theorem toUint32_signed32 (u : Nat) (h : u < 4294967296) : toUint32 (.int (signed32 u)) = u := by
  rw [signed32]
  split
  · exact toUint32_natCast u h
  · exact (congrArg Int.toNat (Int.sub_emod_right _ _)).trans (toUint32_natCast u h)

theorem toInt32_of_range (z : Int) (h : -2147483648 ≤ z ∧ z < 2147483648) : toInt32 (.int z) = z := by
  simp only [toInt32, toUint32, signed32, two31, two32]
  omega

/-- ToUint32 of a ToInt32 result is the same 32 bits -/
theorem toUint32_toInt32 (n : Num) : toUint32 (.int (toInt32 n)) = toUint32 n :=
  toUint32_signed32 _ (toUint32_lt n)

theorem bitOr_zero (n : Num) : bitOr n (.int 0) = .int (toInt32 n) :=
  congrArg (fun u => Num.int (signed32 u)) (Nat.or_zero _)

theorem bitNot_bitNot (n : Num) : bitNot (bitNot n) = .int (toInt32 n) := by
  have h := toInt32_range n
  rw [bitNot, bitNot, toInt32_of_range (-(toInt32 n) - 1) (by omega)]
  congr 1; omega

theorem shr_zero (n : Num) : shr n (.int 0) = .int (toUint32 n) := rfl

/-- `v | 0` is ToInt32(v); `~~v` is the same number -/
theorem bitor_zero (v : V) : binop "|" v (.num (.int 0)) = some (.num (.int (toInt32 (toNumber v)))) :=
  congrArg (some ∘ V.num) (bitOr_zero _)
theorem double_not (v : V) : (unop "~" v).bind (unop "~") = binop "|" v (.num (.int 0)) :=
  (congrArg (some ∘ V.num) (bitNot_bitNot _)).trans (bitor_zero v).symm

/-- `v >>> 0` is ToUint32(v), and applying it twice changes nothing -/
theorem ushr_zero_idem (v : V) :
    (binop ">>>" v (.num (.int 0))).bind (fun r => binop ">>>" r (.num (.int 0))) = binop ">>>" v (.num (.int 0)) :=
  congrArg (some ∘ V.num)
    (show shr (shr (toNumber v) (.int 0)) (.int 0) = shr (toNumber v) (.int 0) by
      rw [shr_zero, shr_zero, toUint32_natCast _ (toUint32_lt _)])

/-- the bitwise operators are commutative -/
theorem bitwise_comm (a b : V) :
    binop "&" a b = binop "&" b a ∧ binop "|" a b = binop "|" b a ∧ binop "^" a b = binop "^" b a :=
  ⟨congrArg (fun u => some (V.num (.int (signed32 u)))) (Nat.and_comm _ _),
   congrArg (fun u => some (V.num (.int (signed32 u)))) (Nat.or_comm _ _),
   congrArg (fun u => some (V.num (.int (signed32 u)))) (Nat.xor_comm _ _)⟩

/-- the shift count is the low five bits of the integer, because 32 divides 2^32 -/
theorem shiftCount_int (z : Int) : shiftCount (.int z) = (z % 32).toNat := by
  show (z % 4294967296).toNat % (32 : Int).toNat = _
  rw [← Int.toNat_emod (Int.emod_nonneg z (by decide)) (by decide), Int.emod_emod_of_dvd z (by decide)]

/-- only the low five bits of the shift count matter: shifting by k and by k + 32 agree -/
theorem shift_count_mod32 (k : Int) : shiftCount (.int (k + 32)) = shiftCount (.int k) := by
  rw [shiftCount_int, shiftCount_int, Int.add_emod_right]

end TsrunVerif.Ops

namespace TsrunVerif.Ctl

/-- `try { body } finally { f }`: the finalizer runs once, on the state the block left, whatever the
block did; the statement completes as the finalizer did if that was abrupt, else as the block did -/
theorem exec_try_finally (fuel : Nat) (s : St) (body f : List Stmt) (c1 c3 : Completion) (s1 s3 : St)
    (hb : execList fuel (pushScopeFor s body) body = (c1, s1))
    (hf : execList fuel (pushScopeFor (popScope s1) f) f = (c3, s3)) :
    exec (fuel + 1) s (.tryS body none [] (some f)) = (if c3 = .normal then c1 else c3, popScope s3) := by
  simp only [exec, hb, List.isEmpty_nil, Option.isSome_some, Bool.and_self, ↓reduceIte]
  cases c1 <;> simp only [hf] <;> cases c3 <;> rfl

/-- **finally runs, and a normally completing finalizer leaves the pending completion alone**:
whatever the try block did - completed, returned, threw, broke out of or continued a loop - the
finalizer runs once on the state the block left, and the statement completes as the block did. -/
theorem finally_normal_keeps_pending (fuel : Nat) (s : St) (body f : List Stmt) (c1 : Completion) (s1 s3 : St)
    (hb : execList fuel (pushScopeFor s body) body = (c1, s1))
    (hf : execList fuel (pushScopeFor (popScope s1) f) f = (.normal, s3)) :
    exec (fuel + 1) s (.tryS body none [] (some f)) = (c1, popScope s3) :=
  exec_try_finally fuel s body f c1 .normal s1 s3 hb hf

/-- **an abrupt finalizer overrides**: a return / throw / break / continue inside `finally`
replaces whatever was pending (a return value, an exception in flight). -/
theorem finally_abrupt_overrides (fuel : Nat) (s : St) (body f : List Stmt) (c1 c3 : Completion) (hc : c3 ≠ .normal)
    (s1 s3 : St) (hb : execList fuel (pushScopeFor s body) body = (c1, s1))
    (hf : execList fuel (pushScopeFor (popScope s1) f) f = (c3, s3)) :
    exec (fuel + 1) s (.tryS body none [] (some f)) = (c3, popScope s3) := by
  rw [exec_try_finally fuel s body f c1 c3 s1 s3 hb hf, if_neg hc]

/-- **catch receives the thrown value** in a fresh scope holding only the catch parameter. -/
theorem catch_binds_thrown (fuel : Nat) (s : St) (body handler : List Stmt) (x : String) (v : Int) (s1 : St)
    (hb : execList fuel (pushScopeFor s body) body = (.thr v, s1)) :
    exec (fuel + 1) s (.tryS body (some x) handler none)
      = ((execList fuel (pushScopeFor (declare (pushScope (popScope s1)) x v) handler) handler).1,
         popScope (popScope (execList fuel (pushScopeFor (declare (pushScope (popScope s1)) x v) handler) handler).2)) := by
  simp only [exec, hb]

/-- a loop consumes `break` / `continue` that are unlabelled or carry one of its own labels, and
lets every other abrupt completion through -/
theorem loop_break_own_label (fuel : Nat) (s : St) (labels : List String) (c : Expr) (body : List Stmt)
    (l : String) (hl : labels.contains l = true) (cv : Int) (he : eval s c = some cv) (hc : cv ≠ 0) (s1 : St)
    (hb : execList fuel (pushScopeFor s body) body = (.brk (some l), s1)) :
    loop (fuel + 1) s labels c body = (.normal, popScope s1) := by
  have hl' : l ∈ labels := by simpa using hl
  simp [loop, he, hc, hb, hl']

theorem loop_break_foreign_label (fuel : Nat) (s : St) (labels : List String) (c : Expr) (body : List Stmt)
    (l : String) (hl : labels.contains l = false) (cv : Int) (he : eval s c = some cv) (hc : cv ≠ 0) (s1 : St)
    (hb : execList fuel (pushScopeFor s body) body = (.brk (some l), s1)) :
    loop (fuel + 1) s labels c body = (.brk (some l), popScope s1) := by
  have hl' : l ∉ labels := by simpa using hl
  simp [loop, he, hc, hb, hl']

-- non-vacuity: return pending behind a finally that logs; finally that overrides with its own return
example : run [.tryS [.ret (.lit 1)] none [] (some [.log "f" (.lit 0)])] = (["f0"], "return 1") := by decide
example : run [.tryS [.thr (.lit 1)] none [] (some [.ret (.lit 2)])] = ([], "return 2") := by decide
example : run [.letS "i" (.lit 0), .whileS ["a"] (.lt (.var "i") (.lit 3))
    [.assign "i" (.add (.var "i") (.lit 1)), .tryS [.ifS (.eq (.var "i") (.lit 2)) [.cont (some "a")] [], .log "b" (.var "i")] none [] (some [.log "f" (.var "i")])]]
  = (["b1", "f1", "f2", "b3", "f3"], "end") := by decide

/-- **temporal dead zone**: inside a block, a name declared by a later `let` of that block cannot
be read before the declaration has run - even when an enclosing scope has a variable of that name. -/
theorem tdz_shadows_outer (fuel : Nat) (s : St) (x : String) (e : Expr) (tag : String) :
    exec (fuel + 3) s (.block [.log tag (.var x), .letS x e]) = (.thr refErr, s) := by
  simp [exec, execList, pushScopeFor, letNames, eval, lookup, popScope]

end TsrunVerif.Ctl
