import TsrunVerif.Model.Susp
import TsrunVerif.Lemmas.VmFieldsAllow
import TsrunVerif.Lemmas.Assoc
/-!
C07 — suspending and resuming is transparent to the program.
Property theorems over M-Susp (`Model/Susp.lean`).
-/
namespace TsrunVerif.Susp

theorem restoreCaller_saveCaller (c : Caller) : restoreCaller (saveCaller c) = c := by
  cases c with
  | mk f r e n a => cases f; rfl

/-- **Everything survives the round trip**: for every VM state - any registers, `this`, open
block scopes, try stack, exception being handled, completion pending behind a finally block, call
chain of suspended callers, environment - restoring the saved state gives the state back,
whatever the host's own `this`/environment defaults are. -/
theorem restore_save (g : Int) (e : Nat) (v : Vm) : restore g e (save v) = v := by
  cases v with
  | mk top callers env =>
    cases top
    simp [restore, save, Function.comp_def, restoreCaller_saveCaller]

/-- a suspension changes nothing, so a run depends neither on where it suspends nor on what the host's
defaults are -/
theorem runWith_congr {Outcome : Type} (next : Next Outcome) (g₁ g₂ : Int) (e₁ e₂ : Nat) :
    ∀ (vals : List Int) (v : Vm) (m₁ m₂ : List Bool),
      runWith next g₁ e₁ v vals m₁ = runWith next g₂ e₂ v vals m₂ := by
  intro vals
  induction vals with
  | nil => intro v m₁ m₂; rfl
  | cons x xs ih =>
    intro v m₁ m₂
    simp only [runWith, restore_save, ite_self]
    cases next v x with
    | inr out => rfl
    | inl v' => exact ih v' m₁.tail m₂.tail

/-- **Transparency.** For every program (any continuation function `next`), every sequence of
awaited values and every choice, await by await, of whether the value was available at once or
arrived after a suspension to the host: the outcome is the one of the run that never suspends. -/
theorem run_mode_independent {Outcome : Type} (next : Next Outcome) (g : Int) (e : Nat) :
    ∀ (vals : List Int) (v : Vm) (modes : List Bool),
      runWith next g e v vals modes = runWith next g e v vals [] :=
  fun vals v modes => runWith_congr next g g e e vals v modes []

/-- two schedules that differ only in when values arrive give the same outcome -/
theorem run_schedules_agree {Outcome : Type} (next : Next Outcome) (g : Int) (e : Nat)
    (vals : List Int) (v : Vm) (m₁ m₂ : List Bool) :
    runWith next g e v vals m₁ = runWith next g e v vals m₂ :=
  runWith_congr next g g e e vals v m₁ m₂

/-- the host's own defaults are irrelevant once the state carries `this` and the environment -/
theorem run_host_independent {Outcome : Type} (next : Next Outcome) (g₁ g₂ : Int) (e₁ e₂ : Nat) :
    ∀ (vals : List Int) (v : Vm) (modes : List Bool),
      runWith next g₁ e₁ v vals modes = runWith next g₂ e₂ v vals modes :=
  fun vals v modes => runWith_congr next g₁ g₂ e₁ e₂ vals v modes modes

/-- **The pre-repair save was not transparent**: a state in a method (`this` ≠ global) with a
return pending behind a finally block does not survive it. -/
theorem lossy_not_roundtrip :
    ∃ v : Vm, restore 0 0 (saveLossy v) ≠ v := by
  refine ⟨{ top := { ip := 7, chunk := 0, registers := [1], thisValue := 5, callStack := [], tryStack := [3],
                     exception := none, savedEnvStack := [2], arguments := [], newTarget := 0,
                     currentConstructor := none, pending := some (.ret 1) },
            callers := [], env := 4 }, ?_⟩
  decide

/-- **Independent host promises.** What a program reads from independently settled promises does
not depend on the order in which the host settled them. -/
theorem lookup_perm {l₁ l₂ : List (Nat × Int)} (h : l₁.Perm l₂) (nd : (l₁.map Prod.fst).Nodup) (i : Nat) :
    lookup l₁ i = lookup l₂ i := by
  have hl : ∀ l : List (Nat × Int), lookup l i = l.lookup i := by
    intro l
    induction l with
    | nil => rfl
    | cons p t ih => rw [lookup, List.lookup_cons, ih, BEq.comm]; by_cases hk : p.1 = i <;> simp [hk, beq_false_of_ne]
  rw [hl, hl, TsrunVerif.lookup_perm h nd]

/-- every field of the VM and of its suspended frames is saved or is on the reviewed list of
transient fields (`Gen/VmFields.lean` is regenerated from the Rust structs on every run). -/
theorem fields_saved : TsrunVerif.Gen.vmFieldsCovered = true ∧ TsrunVerif.Gen.frameFieldsCovered = true := by decide +kernel

/-- every field of a saved frame comes from the field of the same name of THAT frame, every field of the saved VM
from the running VM, and back (regenerated from `save_state` / `from_saved_state` on every run): the Rust code
implements `saveCaller` / `restoreCaller` / `save` / `restore` of the model, field by field. -/
theorem fields_faithful : TsrunVerif.Gen.saveFrameFaithful = true ∧ TsrunVerif.Gen.saveVmFaithful = true ∧
    TsrunVerif.Gen.restoreFrameFaithful = true ∧ TsrunVerif.Gen.restoreVmFaithful = true ∧
    TsrunVerif.Gen.literalsComplete = true := by decide +kernel

-- non-vacuity: saving and restoring a state with every feature set
def sampleVm : Vm :=
  { top := { ip := 7, chunk := 1, registers := [1, 2], thisValue := 5, callStack := [9], tryStack := [3], «exception» := some 8,
             savedEnvStack := [2, 6], arguments := [4], newTarget := 1, currentConstructor := some 2, pending := some (.thr 1) },
    callers := [default], env := 4 }
example : restore 0 0 (save sampleVm) = sampleVm := by decide
example : restore 0 0 (saveLossy sampleVm) ≠ sampleVm := by decide

end TsrunVerif.Susp
