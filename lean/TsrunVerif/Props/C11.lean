import TsrunVerif.Model.Life
import TsrunVerif.Lemmas.Roots

/-!
# C11 — an interpreter stays usable and clean after failed or abandoned runs
-/
namespace TsrunVerif.Life
open TsrunVerif.Roots

theorem rest_iff (l : L) : Rest l ↔ l = L.init := by
  obtain ⟨⟨cur, frames, guards⟩, a, b, c, d, e, f⟩ := l
  simp [Rest, L.init, St.init, and_assoc]

theorem rest_init : Rest L.init := (rest_iff _).mpr rfl

/-- **quiescent_after_error**: whatever the run was doing (any depth of calls, blocks, try
statements, a module body with half-registered exports), an uncaught error leaves nothing. -/
theorem quiescent_after_error (l : L) : Rest (step l .error) := rest_init

/-- bookkeeping invariant while a run is active: the guard stack matches the VM's frames
(M-Roots invariant with base 0) and the trace stack mirrors the frames. -/
def Wf (l : L) : Prop := Roots.Inv 0 l.vm ∧ l.callStack = l.vm.frames.length

theorem wf_init : Wf L.init := by simp [Wf, Roots.Inv, Roots.expected, L.init, St.init]

theorem wf_step (l : L) (e : Ev) (h : Wf l) : Wf (step l e) := by
  cases e with
  | prepare m =>
    -- `Wf` reads `vm` and `callStack` only, which `prepare` takes from `l` or from `L.init`
    simp only [step]
    split
    · exact wf_init
    · exact h
  | vm ev => exact iteInduction (fun _ => ⟨Roots.inv_step 0 l.vm ev h.1, rfl⟩) fun _ => h
  | «export» | complete => exact iteInduction (fun _ => h) fun _ => h
  | error => exact wf_init

theorem wf_run (evs : List Ev) : ∀ l, Wf l → Wf (run l evs) :=
  fun _ h => List.foldlRecOn evs step h fun l h e _ => wf_step l e h

/-- **quiescent_after_complete**: when the VM has finished (no frame, no open scope) `complete`
leaves nothing either — in particular no scope guard and no call-stack entry. -/
theorem quiescent_after_complete (l : L) (h : Wf l) (ha : l.activeVm = true)
    (hdone : l.vm.cur = 0 ∧ l.vm.frames = []) : Rest (step l .complete) := by
  have hg := h.1.guards_of_done hdone.1 hdone.2
  have hcs : l.callStack = 0 := by rw [h.2, hdone.2]; rfl
  simp [step, ha, Rest, hdone.1, hdone.2, hg, hcs]

/-- **abandon_then_prepare_clean (full statement)**: `prepare` after *any* history — a run
abandoned at an arbitrary step inside arbitrary nesting included — gives exactly the state that
`prepare` gives on an interpreter whose previous runs all ended properly. -/
theorem abandon_then_prepare_clean (l : L) (m : Bool) (ha : l.activeVm = true) :
    step l (.prepare m) = step L.init (.prepare m) := by
  simp [step, ha, abandon, L.init]

/-- `prepare` from a state at rest does not depend on which state at rest it is. -/
theorem prepare_from_rest (l : L) (m : Bool) (h : Rest l) : step l (.prepare m) = step L.init (.prepare m) := by
  rw [(rest_iff l).mp h]

/-- **observer_equiv**: a run (any event sequence that starts with `prepare`) behaves the same
on an interpreter with an arbitrary history of failed or abandoned runs as on a fresh one,
as far as the lifecycle state can tell — provided the previous run either was still active
(abandoned) or had ended in a state at rest. -/
theorem observer_equiv (l : L) (m : Bool) (evs : List Ev) (h : l.activeVm = true ∨ Rest l) :
    run l (.prepare m :: evs) = run L.init (.prepare m :: evs) := by
  simp only [run, List.foldl_cons]
  rcases h with ha | hr
  · rw [abandon_then_prepare_clean l m ha]
  · rw [prepare_from_rest l m hr]

/-- a history that ends with `error` ends at rest, whatever came before it
(`quiescent_after_complete` is the same for the `complete` of a finished VM). -/
theorem history_rest_or_active (evs : List Ev) : ∀ l, Wf l → Wf (run l (evs ++ [.error])) ∧ Rest (run l (evs ++ [.error])) := by
  intro l h
  refine ⟨wf_run _ l h, ?_⟩
  simp only [run, List.foldl_append, List.foldl_cons, List.foldl_nil]
  exact quiescent_after_error _

/-! ## non-vacuity -/
example : Rest (run L.init [.prepare true, .vm .pushScope, .vm .call, .vm .pushScope, .export, .error]) := by unfold Rest; decide
example : run L.init [.prepare false, .vm .call, .vm .pushScope, .prepare true, .export, .vm .pushScope, .vm .popScope, .complete]
    = L.init := by decide
example : ¬ Rest (run L.init [.prepare false, .vm .call, .vm .pushScope]) := by unfold Rest; decide

end TsrunVerif.Life
