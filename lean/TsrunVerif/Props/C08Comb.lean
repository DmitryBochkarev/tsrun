import TsrunVerif.Model.Comb
import TsrunVerif.Lemmas.Assoc

/-!
# C08 / C07 (promise combinators) — property theorems over M-Comb

"No lost wake-ups": a combinator's result settles exactly when its inputs decide it, whatever the ORDER in
which the host settles them, and is not settled before.  `n` inputs, any `n`; every settlement order.

The three counting combinators are one bookkeeping, `runF`, over a list of (input, value) pairs: `all` runs
it over its fulfilments, `allSettled` over every event, `any` over its rejections (`Ev.swap`).  `runF_spec`
says what `runF` does; the theorems about the combinators carry it over.
-/
namespace TsrunVerif.Comb

/-- value stored for input `j` by a list of fulfilments -/
def lookupF {α : Type} (fs : List (Nat × α)) (j : Nat) : Option α := (fs.find? (fun p => p.1 == j)).map (·.2)

def runF {α : Type} (dflt : α) (s : AllSt α) (fs : List (Nat × α)) : AllSt α :=
  fs.foldl (fun s p => allFulfil dflt s p.1 p.2) s

theorem lookupF_eq_lookup {α : Type} (fs : List (Nat × α)) (j : Nat) : lookupF fs j = fs.lookup j :=
  (lookup_eq_find? fs j).symm

theorem lookupF_append_single {α : Type} (fs : List (Nat × α)) (i : Nat) (v : α) (j : Nat)
    (hi : lookupF fs i = none) :
    lookupF (fs ++ [(i, v)]) j = if j = i then some v else lookupF fs j := by
  rw [lookupF_eq_lookup] at hi
  rw [lookupF_eq_lookup, lookupF_eq_lookup, List.lookup_append, List.lookup_cons, List.lookup_nil]
  by_cases hj : j = i
  · simp [hj, hi]
  · simp [hj, beq_false_of_ne hj]

/-- the bookkeeping after `done` fulfilments of distinct inputs, not yet all of them -/
def Inv {α : Type} (n : Nat) (s : AllSt α) (done : List (Nat × α)) : Prop :=
  s.n = n ∧ s.out = .pending ∧ s.remaining = n - done.length ∧ done.length < n ∧ ∀ j, s.results j = lookupF done j

theorem inv_init {α : Type} (n : Nat) (hn : 0 < n) : Inv n (allInit n : AllSt α) [] :=
  ⟨rfl, if_neg (Nat.ne_of_gt hn), rfl, hn, fun _ => rfl⟩

theorem allFulfil_new {α : Type} (dflt : α) (s : AllSt α) (i : Nat) (v : α) (hout : s.out = .pending)
    (hi : i < s.n) (hri : s.results i = none) :
    allFulfil dflt s i v =
      let rs := fun j => if j = i then some v else s.results j
      if s.remaining - 1 = 0 then { s with results := rs, remaining := 0, out := .fulfilled (collect s.n rs dflt) }
      else { s with results := rs, remaining := s.remaining - 1 } := by
  rw [allFulfil, hout]; exact if_pos ⟨hi, hri⟩

/-- one more fulfilment of a new input: either still pending (with the slot filled), or - if it was the
    last one - fulfilled with the values in input order -/
theorem inv_step {α : Type} (dflt : α) (n : Nat) (s : AllSt α) (done : List (Nat × α)) (i : Nat) (v : α)
    (h : Inv n s done) (hi : i < n) (hnew : i ∉ done.map (·.1)) :
    (done.length + 1 < n → Inv n (allFulfil dflt s i v) (done ++ [(i, v)])) ∧
    (done.length + 1 = n → (allFulfil dflt s i v).out = .fulfilled (collect n (lookupF (done ++ [(i, v)])) dflt)) := by
  obtain ⟨hn, hout, hrem, hlen, hres⟩ := h
  have hnone : lookupF done i = none := by
    rw [lookupF_eq_lookup, List.lookup_eq_none_iff]
    exact fun p hp => bne_iff_ne.mpr fun e => hnew (List.mem_map.mpr ⟨p, hp, e.symm⟩)
  have hfun : (fun j => if j = i then some v else s.results j) = lookupF (done ++ [(i, v)]) :=
    funext fun j => by rw [lookupF_append_single done i v j hnone, hres j]
  rw [allFulfil_new dflt s i v hout (hn ▸ hi) ((hres i).trans hnone), hfun, hn, hrem]
  constructor
  · intro hlt
    rw [Nat.sub_sub, if_neg (Nat.sub_ne_zero_of_lt hlt)]
    exact ⟨rfl, hout, by rw [List.length_append, List.length_singleton], by rw [List.length_append]; exact hlt,
      fun _ => rfl⟩
  · intro heq
    rw [Nat.sub_sub, heq, if_pos (Nat.sub_self n)]

/-- **`Promise.all` bookkeeping, any order**: after fulfilments of `k < n` distinct inputs the result is
    still pending; after the `n`-th it is fulfilled with the values in input order -/
theorem runF_spec {α : Type} (dflt : α) (n : Nat) (hn : 0 < n) (fs : List (Nat × α))
    (hlt : ∀ p ∈ fs, p.1 < n) (hnd : (fs.map (·.1)).Nodup) (hlen : fs.length ≤ n) :
    (fs.length < n → Inv n (runF dflt (allInit n) fs) fs) ∧
    (fs.length = n → (runF dflt (allInit n) fs).out = .fulfilled (collect n (lookupF fs) dflt)) := by
  -- from the right, so that the step is `inv_step` as it stands
  induction fs using snoc_induction with
  | nil => exact ⟨fun _ => inv_init n hn, fun h => absurd hn (h ▸ Nat.lt_irrefl 0)⟩
  | snoc fs p ih =>
    obtain ⟨i, v⟩ := p
    simp only [List.map_append, List.nodup_append, List.length_append, List.length_singleton] at hnd hlen ⊢
    have hinv : Inv n (runF dflt (allInit n) fs) fs :=
      (ih (fun q hq => hlt q (by simp [hq])) hnd.1 (Nat.le_of_succ_le hlen)).1 hlen
    rw [runF, List.foldl_append]
    exact inv_step dflt n _ fs i v hinv (hlt (i, v) (by simp)) (fun h => hnd.2.2 _ h _ (by simp) rfl)

/-- `runF_spec` as the combinators use it: `fs` holds one pair for each of the events `es` -/
theorem runF_events {α : Type} (dflt : α) (n : Nat) (hn : 0 < n) (es : List Ev) (hlt : ∀ e ∈ es, e.idx < n)
    (hnd : (es.map Ev.idx).Nodup) (fs : List (Nat × α)) (hfs : fs.map (·.1) = es.map Ev.idx) :
    (es.length < n → (runF dflt (allInit n) fs).out = .pending) ∧
    (es.length = n → (runF dflt (allInit n) fs).out = .fulfilled (collect n (lookupF fs) dflt)) := by
  have hlen : fs.length = es.length := by rw [← List.length_map (f := (·.1)), hfs, List.length_map]
  have hlt' : ∀ p ∈ fs, p.1 < n := fun p hp => by
    obtain ⟨e, he, hpe⟩ := List.mem_map.mp (hfs ▸ List.mem_map_of_mem hp)
    exact hpe ▸ hlt e he
  rw [← hfs] at hnd
  have hle := hnd.length_le_of_subset (l₂ := List.range n)
    (fun i hi => by obtain ⟨p, hp, rfl⟩ := List.mem_map.mp hi; exact List.mem_range.mpr (hlt' p hp))
  rw [List.length_map, List.length_range] at hle
  rw [← hlen]
  have hspec := runF_spec dflt n hn fs hlt' hnd hle
  exact ⟨fun h => (hspec.1 h).2.1, hspec.2⟩

/-- once settled, the result of `Promise.all` never changes -/
theorem allStep_settled (s : AllSt Int) (e : Ev) (h : s.out ≠ .pending) : (allStep s e).out = s.out := by
  cases e <;> simp only [allStep, allFulfil, allReject] <;> cases hs : s.out <;> simp_all

theorem allRun_settled (es : List Ev) : ∀ (s : AllSt Int), s.out ≠ .pending → (es.foldl allStep s).out = s.out :=
  fun s h => List.foldlRecOn es allStep (motive := fun s' => s'.out = s.out) rfl
    fun s' hs' e _ => (allStep_settled s' e (hs' ▸ h)).trans hs'

/-- fulfilment events as (input, value) pairs -/
def fuls (es : List Ev) : List (Nat × Int) := es.filterMap (fun e => match e with | .ful i v => some (i, v) | .rej _ _ => none)

def allFul (es : List Ev) : Prop := ∀ e ∈ es, ∃ i v, e = .ful i v

theorem allFul_cons {e : Ev} {es : List Ev} (h : allFul (e :: es)) : (∃ i v, e = .ful i v) ∧ allFul es :=
  ⟨h e List.mem_cons_self, fun e' he' => h e' (List.mem_cons_of_mem _ he')⟩

theorem foldl_allStep_fuls : ∀ (es : List Ev) (s : AllSt Int), allFul es →
    es.foldl allStep s = runF 0 s (fuls es) := by
  intro es
  induction es with
  | nil => intro s _; rfl
  | cons e es ih =>
    intro s h
    obtain ⟨⟨i, v, rfl⟩, h'⟩ := allFul_cons h
    exact ih _ h'  -- both folds unfold on `.ful i v :: es` to the fold over `es` from `allFulfil 0 s i v`

theorem fuls_idx (es : List Ev) (h : allFul es) : (fuls es).map (·.1) = es.map Ev.idx := by
  induction es with
  | nil => rfl
  | cons e es ih =>
    obtain ⟨⟨i, v, rfl⟩, h'⟩ := allFul_cons h
    simpa [fuls, Ev.idx] using ih h'

/-- **Promise.all, every settlement order**: if all `n` inputs are fulfilled (each once, in whatever order),
    the result is fulfilled with the values in INPUT order; with fewer fulfilments it is still pending -/
theorem all_fulfilled_any_order (n : Nat) (hn : 0 < n) (es : List Ev) (hf : allFul es)
    (hlt : ∀ e ∈ es, e.idx < n) (hnd : (es.map Ev.idx).Nodup) :
    (es.length < n → all n es = .pending) ∧
    (es.length = n → all n es = .fulfilled (collect n (lookupF (fuls es)) 0)) := by
  rw [all, allRun, foldl_allStep_fuls es _ hf]
  exact runF_events 0 n hn es hlt hnd (fuls es) (fuls_idx es hf)

theorem all_rejected_of_pending (n : Nat) (pre post : List Ev) (i : Nat) (r : Int) (hp : all n pre = .pending) :
    all n (pre ++ .rej i r :: post) = .rejected r := by
  rw [all, allRun] at *
  have : (allStep (pre.foldl allStep (allInit n)) (.rej i r)).out = .rejected r := by
    simp only [allStep, allReject, hp]
  rw [List.foldl_append, List.foldl_cons, allRun_settled post _ (by simp [this]), this]

/-- **a rejection before the last fulfilment rejects `Promise.all` with that reason**, whatever follows -/
theorem all_rejected_first (n : Nat) (hn : 0 < n) (pre post : List Ev) (i : Nat) (r : Int) (hf : allFul pre)
    (hlt : ∀ e ∈ pre, e.idx < n) (hnd : (pre.map Ev.idx).Nodup) (hlen : pre.length < n) :
    all n (pre ++ .rej i r :: post) = .rejected r :=
  all_rejected_of_pending n pre post i r ((all_fulfilled_any_order n hn pre hf hlt hnd).1 hlen)

/-- **allSettled waits for every input and never rejects**: pending until the last input has settled,
    then fulfilled with one element per input in input order -/
theorem allSettled_waits (n : Nat) (hn : 0 < n) (es : List Ev)
    (hlt : ∀ e ∈ es, e.idx < n) (hnd : (es.map Ev.idx).Nodup) :
    (es.length < n → allSettled n es = .pending) ∧
    (es.length = n → allSettled n es = .fulfilled (collect n (lookupF (es.map (fun e => (e.idx, e.settled)))) (.fulfilled 0))) := by
  have hrun : es.foldl setStep (allInit n) = runF (Settled.fulfilled 0) (allInit n) (es.map (fun e => (e.idx, e.settled))) := by
    rw [runF, List.foldl_map]; rfl
  rw [allSettled, hrun]
  exact runF_events _ n hn es hlt hnd _ (by simp)

/-- **no lost wake-up**: once every input has settled, `allSettled` is not pending -/
theorem allSettled_not_pending (n : Nat) (hn : 0 < n) (es : List Ev)
    (hlt : ∀ e ∈ es, e.idx < n) (hnd : (es.map Ev.idx).Nodup) (hall : es.length = n) :
    allSettled n es ≠ .pending := by
  rw [(allSettled_waits n hn es hlt hnd).2 hall]; simp

theorem Ev.idx_swap (e : Ev) : e.swap.idx = e.idx := by cases e <;> rfl

/-- rejections of distinct inputs, swapped, meet the hypotheses of the theorems about `all` -/
theorem swap_hyps {n : Nat} {es : List Ev} (hr : ∀ e ∈ es, ∃ j r, e = .rej j r) (hlt : ∀ e ∈ es, e.idx < n)
    (hnd : (es.map Ev.idx).Nodup) :
    allFul (es.map Ev.swap) ∧ (∀ e ∈ es.map Ev.swap, e.idx < n) ∧ ((es.map Ev.swap).map Ev.idx).Nodup := by
  refine ⟨fun e he => ?_, List.forall_mem_map.mpr fun e he => (Ev.idx_swap e).symm ▸ hlt e he, ?_⟩
  · obtain ⟨e0, he0, rfl⟩ := List.mem_map.mp he
    obtain ⟨j, r, rfl⟩ := hr e0 he0
    exact ⟨j, r, rfl⟩
  · rwa [List.map_map, show Ev.idx ∘ Ev.swap = Ev.idx from funext Ev.idx_swap]

/-- **Promise.any**: the first fulfilment wins, whatever rejections came before and whatever follows -/
theorem any_first_fulfilled (n : Nat) (hn : 0 < n) (pre post : List Ev) (i : Nat) (v : Int)
    (hr : ∀ e ∈ pre, ∃ j r, e = .rej j r) (hlt : ∀ e ∈ pre, e.idx < n) (hnd : (pre.map Ev.idx).Nodup)
    (hlen : pre.length < n) :
    (any n (pre ++ .ful i v :: post)).1 = .fulfilled v := by
  obtain ⟨hf, hlt', hnd'⟩ := swap_hyps hr hlt hnd
  have := all_rejected_first n hn _ (post.map Ev.swap) i v hf hlt' hnd' (by rwa [List.length_map])
  simp only [any, List.map_append, List.map_cons, Ev.swap, this]

/-- **Promise.any rejects only when every input has been rejected** (and then it does: no lost wake-up) -/
theorem any_all_rejected (n : Nat) (hn : 0 < n) (es : List Ev) (hr : ∀ e ∈ es, ∃ j r, e = .rej j r)
    (hlt : ∀ e ∈ es, e.idx < n) (hnd : (es.map Ev.idx).Nodup) :
    (es.length < n → (any n es).1 = .pending) ∧ (es.length = n → ∃ rs, any n es = (.rejected 0, some rs) ∧ rs.length = n) := by
  obtain ⟨hf, hlt', hnd'⟩ := swap_hyps hr hlt hnd
  have h := all_fulfilled_any_order n hn _ hf hlt' hnd'
  rw [List.length_map] at h
  constructor
  · intro hl; rw [any, h.1 hl]
  · intro hl; rw [any, h.2 hl]; exact ⟨_, rfl, by simp [collect]⟩

/-- the value stored for an input does not depend on the order of the fulfilments -/
theorem lookupF_perm {α : Type} (fs fs' : List (Nat × α)) (hp : fs.Perm fs') (hnd : (fs.map (·.1)).Nodup) (j : Nat) :
    lookupF fs j = lookupF fs' j := by
  rw [lookupF_eq_lookup, lookupF_eq_lookup, lookup_perm hp hnd]

/-- **the order in which the host settles the inputs does not matter to `Promise.all`** -/
theorem all_order_independent (n : Nat) (hn : 0 < n) (es es' : List Ev) (hp : es.Perm es') (hf : allFul es)
    (hlt : ∀ e ∈ es, e.idx < n) (hnd : (es.map Ev.idx).Nodup) (hlen : es.length = n) :
    all n es = all n es' := by
  have hf' : allFul es' := fun e he => hf e (hp.mem_iff.mpr he)
  have hlt' : ∀ e ∈ es', e.idx < n := fun e he => hlt e (hp.mem_iff.mpr he)
  have hnd' : (es'.map Ev.idx).Nodup := (hp.map Ev.idx).nodup_iff.mp hnd
  rw [(all_fulfilled_any_order n hn es hf hlt hnd).2 hlen,
    (all_fulfilled_any_order n hn es' hf' hlt' hnd').2 (hp.length_eq ▸ hlen)]
  have : lookupF (fuls es) = lookupF (fuls es') :=
    funext (lookupF_perm _ _ (hp.filterMap _) (fuls_idx es hf ▸ hnd))
  rw [this]

-- non-vacuity: three inputs settled out of order
example : all 3 [.ful 2 30, .ful 0 10, .ful 1 20] = .fulfilled [10, 20, 30] := by decide
example : all 3 [.ful 2 30, .rej 0 7, .ful 1 20] = .rejected 7 := by decide
example : all 3 [.ful 2 30, .ful 0 10] = .pending := by decide
example : allSettled 2 [.rej 1 5] = .pending ∧ allSettled 2 [.rej 1 5, .ful 0 3] = .fulfilled [.fulfilled 3, .rejected 5] := by decide
example : any 2 [.rej 1 5, .ful 0 3] = (.fulfilled 3, none) ∧ any 2 [.rej 1 5, .rej 0 4] = (.rejected 0, some [4, 5]) ∧ (any 2 [.rej 1 5]).1 = .pending := by decide

end TsrunVerif.Comb
