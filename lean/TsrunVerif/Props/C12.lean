import TsrunVerif.Model.Iso
import TsrunVerif.Gen.Globals
import TsrunVerif.Lemmas.GlobalsAllow

/-!
# C12 — execution is deterministic and instances are isolated
-/
namespace TsrunVerif.Iso

theorem proj_cons {X : Type} (b b' : Bool) (x : X) (l : List (Bool × X)) :
    proj b ((b', x) :: l) = if b' = b then x :: proj b l else proj b l := by
  cases b <;> cases b' <;> rfl

/-- **product_isolation**: in any interleaving of the steps of two instances, what instance 1
does (its outputs and its final state) is exactly what it does running alone on its own
actions — and likewise instance 2. -/
theorem product_isolation {S A O : Type} (step : S → A → S × O) (acts : List (Bool × A)) :
    ∀ (s1 s2 : S),
      ((runProd step (s1, s2) acts).1.1 = (runSolo step s1 (proj true acts)).1 ∧
       proj true (runProd step (s1, s2) acts).2 = (runSolo step s1 (proj true acts)).2) ∧
      ((runProd step (s1, s2) acts).1.2 = (runSolo step s2 (proj false acts)).1 ∧
       proj false (runProd step (s1, s2) acts).2 = (runSolo step s2 (proj false acts)).2) := by
  induction acts with
  | nil => intro s1 s2; exact ⟨⟨rfl, rfl⟩, rfl, rfl⟩
  | cons x t ih =>
    intro s1 s2
    obtain ⟨b, a⟩ := x
    -- the instance that moves takes one solo step, the other none; the rest is the induction hypothesis
    cases b with
    | true =>
      obtain ⟨⟨h1, h2⟩, h3, h4⟩ := ih (step s1 a).1 s2
      simp [runProd, runSolo, proj_cons, h1, h2, h3, h4]
    | false =>
      obtain ⟨⟨h1, h2⟩, h3, h4⟩ := ih s1 (step s2 a).1
      simp [runProd, runSolo, proj_cons, h1, h2, h3, h4]

/-- determinism of a run is immediate (a run is a function of state and actions); stated for
the record: equal inputs, equal outputs. -/
theorem run_deterministic {S A O : Type} (step : S → A → S × O) (s : S) (as bs : List A) (h : as = bs) :
    runSolo step s as = runSolo step s bs := by rw [h]

/-! ## address-keyed tables never leak addresses through lookups -/

def renameTable {K K' V : Type} (ρ : K → K') (t : List (K × V)) : List (K' × V) := t.map (fun p => (ρ p.1, p.2))

theorem find_rename {K K' V : Type} [DecidableEq K] [DecidableEq K'] (ρ : K → K') (hρ : Function.Injective ρ) (k : K) :
    ∀ t : List (K × V), ((List.find? (fun p => p.1 = ρ k) (t.map (fun p => (ρ p.1, p.2)))).map (·.2))
      = ((t.find? (fun p => p.1 = k)).map (·.2)) := by
  intro t
  simp [List.find?_map, Function.comp_def, hρ.eq_iff]

theorem tstep_rename {K K' V : Type} [DecidableEq K] [DecidableEq K'] (ρ : K → K') (hρ : Function.Injective ρ)
    (t : List (K × V)) (op : TOp K V) :
    (tstep (renameTable ρ t) (op.rename ρ)).1 = renameTable ρ (tstep t op).1 ∧
    (tstep (renameTable ρ t) (op.rename ρ)).2 = (tstep t op).2 := by
  -- `filter`, `find?` and `any` commute with the renaming because a renamed key equals `ρ k` iff the key equals `k`
  cases op <;>
    simp [TOp.rename, tstep, renameTable, List.filter_map, List.find?_map, List.any_map, Function.comp_def, hρ.eq_iff]

/-- **map_addr_invariant**: the results of any sequence of `insert` / `get` / `remove` /
`contains` on an address-keyed table are the same under every injective re-assignment of the
addresses — where the allocator put an interned string or a promise cannot be observed through
these tables (as long as no iteration over them is order-sensitive, which `iterations_allowed`
checks). -/
theorem map_addr_invariant {K K' V : Type} [DecidableEq K] [DecidableEq K'] (ρ : K → K') (hρ : Function.Injective ρ)
    (ops : List (TOp K V)) : ∀ t : List (K × V),
      trun (renameTable ρ t) (ops.map (TOp.rename ρ)) = trun t ops := by
  induction ops with
  | nil => intro t; rfl
  | cons op rest ih =>
    intro t
    obtain ⟨h1, h2⟩ := tstep_rename ρ hρ t op
    simp only [List.map_cons, trun, h2, h1]
    rw [ih]

end TsrunVerif.Iso

namespace TsrunVerif.Gen
/-- **no_shared_state** (obligation over the generated inventory, re-checked on every run): the
crate declares no process-global mutable state outside the committed allowlist. -/
theorem globals_allowed : globalItems.all (fun x => allowedGlobals.contains x) = true := by decide +kernel

/-- every iteration over an address-keyed table is one of the reviewed, order-insensitive ones. -/
theorem iterations_allowed : addrKeyedIterations.all (fun x => allowedAddrKeyedIterations.contains x) = true := by
  decide +kernel
end TsrunVerif.Gen

namespace TsrunVerif.Iso
/-! ## non-vacuity -/
example : trun ([] : List (Nat × String)) [.insert 5 "a", .insert 7 "b", .get 5, .remove 5, .contains 5, .get 7]
    = [.unit, .unit, .val (some "a"), .unit, .bool false, .val (some "b")] := by decide
example : (runProd (fun (s : Nat) (a : Nat) => (s + a, s * a)) (1, 10) [(true, 2), (false, 3), (true, 4)]).2
    = [(true, 2), (false, 30), (true, 12)] := by decide
end TsrunVerif.Iso
