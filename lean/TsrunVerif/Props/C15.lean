import TsrunVerif.Model.Num

/-!
# C15 — numbers convert to and from text and integers exactly

Property theorems over M-Num (`Model/Num.lean`), for all integers / all digit strings /
all mantissa–exponent pairs (no enumeration of doubles).
-/
namespace TsrunVerif.Num

/-! ## ToInt32 / ToUint32 wrap modulo 2^32 (for every integer, hence every truncated double) -/

theorem toInt32Int_range (z : Int) : -2147483648 ≤ toInt32Int z ∧ toInt32Int z < 2147483648 := by
  simp only [toInt32Int]
  omega

theorem toInt32Int_congr (z : Int) : (toInt32Int z - z) % 4294967296 = 0 := by
  simp only [toInt32Int]
  omega

theorem toUint32Int_range (z : Int) : 0 ≤ toUint32Int z ∧ toUint32Int z < 4294967296 :=
  ⟨Int.emod_nonneg z (by decide), Int.emod_lt_of_pos z (by decide)⟩

theorem toUint32Int_congr (z : Int) : (toUint32Int z - z) % 4294967296 = 0 := by
  unfold toUint32Int; omega

/-- the two conversions agree modulo 2^32 (same bit pattern). -/
theorem toInt32_toUint32 (z : Int) : (toInt32Int z - toUint32Int z) % 4294967296 = 0 := by
  simp only [toInt32Int, toUint32Int]
  omega

/-- shift counts are taken modulo 32. -/
theorem shift_count_mod32 (b : F64) : (toUint32 b % 32).toNat < 32 := by
  have : toUint32 b % 32 < 32 := Int.emod_lt_of_pos _ (by decide)
  exact (Int.toNat_lt' (by decide)).mpr this

/-- on values already in range ToInt32 is the identity (so small integers are untouched). -/
theorem toInt32Int_id (z : Int) (h1 : -2147483648 ≤ z) (h2 : z < 2147483648) : toInt32Int z = z := by
  unfold toInt32Int
  simp only
  split <;> omega

/-! ## rounding half up on the exact expansion (toFixed / toPrecision / toExponential) -/

/-- dividing by an even `d` after adding `d/2` yields the nearest multiple, ties upward:
`q·d − d/2 ≤ n < q·d + d/2`. -/
theorem roundHalfUp_nearest (n d : Nat) (hd : 0 < d) (he : d % 2 = 0) :
    ((n + d / 2) / d) * d ≤ n + d / 2 ∧ n + d / 2 < ((n + d / 2) / d) * d + d :=
  ⟨Nat.div_mul_le_self _ _, Nat.lt_div_mul_add hd⟩

/-- an exact tie (`n` halfway between two multiples of `d`) goes up. -/
theorem roundHalfUp_tie_up (n d : Nat) (hd : 0 < d) (he : d % 2 = 0) (ht : n % d = d / 2) :
    (n + d / 2) / d = n / d + 1 := by
  have h1 := Nat.div_add_mod n d
  have hx : n + d / 2 = d * (n / d + 1) := by
    rw [Nat.mul_add, Nat.mul_one]; omega
  rw [hx, Nat.mul_div_cancel_left _ hd]

theorem pow10_even (j : Nat) (hj : 0 < j) : pow10 j % 2 = 0 := by
  cases j with
  | zero => exact absurd hj (Nat.lt_irrefl 0)
  -- a multiple of 10, and 2 divides 10
  | succ k => rw [pow10, Nat.pow_succ, ← Nat.mod_mod_of_dvd _ (by decide : 2 ∣ 10), Nat.mul_mod_left]

theorem pow10_pos (j : Nat) : 0 < pow10 j := Nat.pow_pos (by decide)

/-- `roundFixed` with fewer requested digits than the expansion has: nearest, ties up. -/
theorem roundFixed_nearest (n k f : Nat) (h : f < k) :
    roundFixed n k f * pow10 (k - f) ≤ n + pow10 (k - f) / 2 ∧
    n + pow10 (k - f) / 2 < roundFixed n k f * pow10 (k - f) + pow10 (k - f) := by
  have hnot : ¬ f ≥ k := by omega
  simp only [roundFixed, hnot, if_false]
  exact roundHalfUp_nearest n _ (pow10_pos _) (pow10_even _ (Nat.sub_pos_of_lt h))

/-- with at least as many requested digits as the expansion has, nothing is rounded:
the printed integer denotes exactly the same value (`r / 10^f = n / 10^k`). -/
theorem roundFixed_exact_when_enough_digits (n k f : Nat) (h : k ≤ f) :
    roundFixed n k f * pow10 k = n * pow10 f := by
  have : f ≥ k := h
  simp only [roundFixed, this, if_true, pow10]
  rw [Nat.mul_assoc, ← Nat.pow_add, Nat.sub_add_cancel h]

/-- the exact expansion really is exact: `m·2^e = N / 10^k`. -/
theorem exactScaled_value (m : Nat) (e : Int) :
    (e ≥ 0 → exactScaled m e = (m * 2 ^ e.toNat, 0)) ∧
    (e < 0 → (exactScaled m e).1 * 2 ^ (-e).toNat = m * 10 ^ (exactScaled m e).2) := by
  constructor
  · intro h; simp [exactScaled, h]
  · intro h
    have hn : ¬ e ≥ 0 := by omega
    simp only [exactScaled, hn, if_false]
    rw [Nat.mul_assoc, ← Nat.mul_pow]

/-! ## notation: plain iff the decimal point position is in (-6, 21] -/

theorem digitChar_ne_e : ∀ d < 10, digitChar d ≠ 'e' := by decide

theorem e_not_mem_digitsStr (ds : List Nat) (h : ∀ d ∈ ds, d < 10) : 'e' ∉ digitsStr ds := by
  intro hm
  unfold digitsStr at hm
  obtain ⟨d, hd, he⟩ := List.mem_map.mp hm
  exact digitChar_ne_e d (h d hd) he

theorem e_not_mem_zeros (n : Nat) : 'e' ∉ zeros n := by
  intro hm
  have := List.eq_of_mem_replicate hm
  simp at this

/-- **notation**: the printed text contains an exponent marker iff the decimal point position
`point` (value = 0.d₁…d_k × 10^point) is outside (-6, 21], i.e. iff |x| < 1e-6 or |x| ≥ 1e21. -/
theorem layout_plain_iff (ds : List Nat) (point : Int) (hne : ds ≠ []) (hd : ∀ d ∈ ds, d < 10) :
    'e' ∈ layout ds point ↔ ¬ (-6 < point ∧ point ≤ 21) := by
  have hnd := e_not_mem_digitsStr ds hd
  have hz := e_not_mem_zeros
  have hk : (0 : Int) < ds.length := by
    cases ds with
    | nil => exact absurd rfl hne
    | cons a t => simp
  rw [layout]
  -- in the three plain layouts there is no `e` and the point is in range; in the fourth both fail
  by_cases h1 : (ds.length : Int) ≤ point ∧ point ≤ 21
  · rw [if_pos h1]
    exact iff_of_false (by simp [hnd, hz]) (not_not_intro (by omega))
  · rw [if_neg h1]
    by_cases h2 : 0 < point ∧ point ≤ 21
    · have htake := e_not_mem_digitsStr _ fun d h => hd d (List.mem_of_mem_take (i := point.toNat) h)
      have hdrop := e_not_mem_digitsStr _ fun d h => hd d (List.mem_of_mem_drop (i := point.toNat) h)
      rw [if_pos h2]
      exact iff_of_false (by simp [htake, hdrop]) (not_not_intro (by omega))
    · rw [if_neg h2]
      by_cases h3 : -6 < point ∧ point ≤ 0
      · rw [if_pos h3]
        exact iff_of_false (by simp [hnd, hz]) (not_not_intro (by omega))
      · rw [if_neg h3]
        refine iff_of_true ?_ (by omega)
        obtain ⟨d, t, rfl⟩ := List.exists_cons_of_ne_nil hne
        cases t <;> simp

/-! ## non-vacuity / concrete instances -/
example : toInt32Int 4294967296 = 0 ∧ toInt32Int 10000000000 = 1410065408 ∧ toInt32Int (-2147483649) = 2147483647 := by decide
example : toUint32Int (-1) = 4294967295 := by decide
example : roundFixed 25 1 0 = 3 ∧ roundFixed 125 3 2 = 13 ∧ roundFixed 1005 3 2 = 101 := by decide
example : layout [1] 22 = "1e+21".toList ∧ layout [1] (-6) = "1e-7".toList ∧ layout [1] (-5) = "0.000001".toList
    ∧ layout [1, 2, 3] 1 = "1.23".toList ∧ layout [5] 21 = "500000000000000000000".toList := by decide

end TsrunVerif.Num
