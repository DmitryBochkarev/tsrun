import TsrunVerif.Model.Pos
import TsrunVerif.Lemmas.Assoc

/-!
# C20 — error reports point at the code that failed (the position/lookup logic)
-/
namespace TsrunVerif.Pos

def countLT (w : List Char) : Nat := (w.filter isLT).length

theorem posFrom_append (p : Pos) (a b : List Char) : posFrom p (a ++ b) = posFrom (posFrom p a) b := by
  simp [posFrom, List.foldl_append]

theorem posFrom_cons (p : Pos) (c : Char) (w : List Char) : posFrom p (c :: w) = posFrom (adv p c) w :=
  List.foldl_cons ..

theorem posFrom_line (p : Pos) (w : List Char) : (posFrom p w).line = p.line + countLT w := by
  induction w generalizing p with
  | nil => rfl
  | cons c t ih =>
    rw [posFrom_cons, ih, countLT, countLT, List.filter_cons, adv]
    by_cases h : isLT c = true
    · simp [h]; omega
    · simp [h]

theorem posFrom_col_noLT (p : Pos) (w : List Char) (h : ∀ c ∈ w, isLT c = false) :
    (posFrom p w).col = p.col + w.length := by
  induction w generalizing p with
  | nil => rfl
  | cons c t ih =>
    rw [posFrom_cons, ih _ (fun x hx => h x (List.mem_cons_of_mem _ hx)), adv, h c List.mem_cons_self]
    simp; omega

theorem posFrom_col_afterLT (p : Pos) (a : List Char) (c : Char) (b : List Char) (hc : isLT c = true)
    (hb : ∀ x ∈ b, isLT x = false) : (posFrom p (a ++ c :: b)).col = 1 + b.length := by
  rw [posFrom_append, posFrom_cons, posFrom_col_noLT _ b hb, adv, hc]; rfl

/-- **pos_formula**: after consuming the prefix `w`, `line = 1 + #LT(w)`. -/
theorem pos_formula_line (w : List Char) : (posAfter w).line = 1 + countLT w := posFrom_line _ w

/-- **pos_formula** (columns, no line terminator consumed yet): `column = 1 + #characters`. -/
theorem pos_formula_col_first_line (w : List Char) (h : ∀ c ∈ w, isLT c = false) :
    (posAfter w).col = 1 + w.length := posFrom_col_noLT _ w h

/-- **pos_formula** (columns): `column = 1 + #characters since the last line terminator`
(`w = a ++ c :: b` with `c` the last LT; every `w` is of this or of the previous form). -/
theorem pos_formula_col (a : List Char) (c : Char) (b : List Char) (hc : isLT c = true)
    (hb : ∀ x ∈ b, isLT x = false) : (posAfter (a ++ c :: b)).col = 1 + b.length :=
  posFrom_col_afterLT _ a c b hc hb

/-- **layout_equivariant (lines)**: inserting any text `ins` before the rest `mid` of the
prefix moves the reported line by exactly the number of line terminators inserted. -/
theorem layout_line (pre ins mid : List Char) :
    (posAfter (pre ++ ins ++ mid)).line = (posAfter (pre ++ mid)).line + countLT ins := by
  simp only [pos_formula_line, countLT, List.filter_append, List.length_append]; omega

/-- **layout_equivariant (columns)**: text inserted on an *earlier* line does not move the column… -/
theorem layout_col_earlier_line (pre ins a : List Char) (c : Char) (b : List Char) (hc : isLT c = true)
    (hb : ∀ x ∈ b, isLT x = false) :
    (posAfter (pre ++ ins ++ (a ++ c :: b))).col = (posAfter (pre ++ (a ++ c :: b))).col := by
  rw [← List.append_assoc, ← List.append_assoc pre a, pos_formula_col _ c b hc hb, pos_formula_col _ c b hc hb]

/-- … and text without line terminators inserted on the *same* line moves it by its length
(tabs, CR and wide characters count one column each). -/
theorem layout_col_same_line (pre ins mid : List Char) (hi : ∀ x ∈ ins, isLT x = false)
    (hm : ∀ x ∈ mid, isLT x = false) :
    (posAfter (pre ++ ins ++ mid)).col = (posAfter (pre ++ mid)).col + ins.length := by
  unfold posAfter
  rw [posFrom_append, posFrom_append, posFrom_append, posFrom_col_noLT _ mid hm, posFrom_col_noLT _ ins hi,
    posFrom_col_noLT _ mid hm]
  omega

def offsets (m : List Entry) : List Nat := m.map (·.offset)

def MapOk (b : Builder) : Prop :=
  (offsets b.map).Pairwise (· < ·) ∧ ∀ e ∈ b.map, e.offset < b.codeLen

theorem mapOk_init : MapOk Builder.init := by simp [MapOk, Builder.init, offsets]

theorem offsets_concat_sorted (m : List Entry) (e : Entry) :
    (offsets (m ++ [e])).Pairwise (· < ·) ↔ (offsets m).Pairwise (· < ·) ∧ ∀ a ∈ m, a.offset < e.offset := by
  rw [offsets, List.map_append, List.map_singleton, pairwise_concat, offsets, List.forall_mem_map]

theorem emit_map (b : Builder) :
    (emit b).map = b.map ∨ ∃ sp, b.cur = some sp ∧ (emit b).map = b.map ++ [{ offset := b.codeLen, span := sp }] := by
  unfold emit
  cases b.cur with
  | none => exact Or.inl rfl
  | some sp => dsimp only; split; exact Or.inl rfl; exact Or.inr ⟨sp, rfl, rfl⟩

theorem mapOk_step (b : Builder) (op : BOp) (h : MapOk b) : MapOk (bstep b op) := by
  cases op with
  | setSpan s => exact h
  | clearSpan => exact h
  | emit =>
    obtain ⟨h1, h2⟩ := h
    have hlt : ∀ e ∈ b.map, e.offset < (emit b).codeLen := fun e he => Nat.lt_succ_of_lt (h2 e he)
    rw [bstep, MapOk]
    rcases emit_map b with hm | ⟨sp, _, hm⟩ <;> rw [hm]
    · exact ⟨h1, hlt⟩
    · refine ⟨(offsets_concat_sorted _ _).mpr ⟨h1, h2⟩, fun e he => ?_⟩
      rcases List.mem_append.mp he with h' | h'
      · exact hlt e h'
      · rw [List.mem_singleton.mp h']; exact Nat.lt_succ_self _

/-- **lookup_floor**: for an offset-sorted map, `lookup` returns the span of the entry with the
greatest offset ≤ `off` (every other entry at or below `off` has a smaller offset). -/
theorem lookup_floor (m : List Entry) (off : Nat) (sp : Span) (hs : (offsets m).Pairwise (· < ·))
    (h : lookup m off = some sp) :
    ∃ e ∈ m, e.span = sp ∧ e.offset ≤ off ∧ ∀ e' ∈ m, e'.offset ≤ off → e'.offset ≤ e.offset := by
  obtain ⟨e, hl, rfl⟩ := Option.map_eq_some_iff.mp h
  -- the entries at or below `off` are `init ++ [e]`, still sorted: `e` is the greatest of them
  obtain ⟨init, hinit⟩ := List.getLast?_eq_some_iff.mp hl
  have hmem : ∀ e', e' ∈ init ++ [e] ↔ e' ∈ m ∧ e'.offset ≤ off := by simp [← hinit]
  have hsf : (offsets (init ++ [e])).Pairwise (· < ·) := hs.sublist (hinit ▸ List.filter_sublist.map _)
  refine ⟨e, ((hmem e).mp (by simp)).1, rfl, ((hmem e).mp (by simp)).2, fun e' he' hle => ?_⟩
  rcases List.mem_append.mp ((hmem e').mpr ⟨he', hle⟩) with h1 | h1
  · exact Nat.le_of_lt (((offsets_concat_sorted init e).mp hsf).2 e' h1)
  · rw [List.mem_singleton.mp h1]; exact Nat.le_refl _

/-- run a list of builder ops, logging (instruction index, span current at emission). -/
def brun : Builder → List BOp → List (Nat × Option Span) → Builder × List (Nat × Option Span)
  | b, [], log => (b, log)
  | b, op :: t, log =>
    match op with
    | .emit => brun (bstep b .emit) t (log ++ [(b.codeLen, b.cur)])
    | op => brun (bstep b op) t log

def startOf (m : List Entry) (i : Nat) : Option Nat := (lookup m i).map (·.start)

theorem lookup_append_gt (m : List Entry) (e : Entry) (i : Nat) (h : i < e.offset) :
    lookup (m ++ [e]) i = lookup m i := by
  simp [lookup, List.filter_append, Nat.not_le_of_lt h]

theorem lookup_append_le (m : List Entry) (e : Entry) (i : Nat) (h : e.offset ≤ i) :
    lookup (m ++ [e]) i = some e.span := by
  simp [lookup, List.filter_append, h]

theorem lookup_all_le (m : List Entry) (i : Nat) (h : ∀ e ∈ m, e.offset ≤ i) :
    lookup m i = (m.getLast?).map (·.span) := by
  unfold lookup
  have : m.filter (fun e => e.offset ≤ i) = m := by
    apply List.filter_eq_self.mpr
    intro e he; simpa using h e he
  rw [this]

theorem startOf_emit_old (b : Builder) (i : Nat) (hi : i < b.codeLen) : startOf (emit b).map i = startOf b.map i := by
  rcases emit_map b with hm | ⟨sp, _, hm⟩
  · rw [hm]
  · rw [hm, startOf, lookup_append_gt _ _ _ hi, startOf]

theorem startOf_emit_new (b : Builder) (hok : MapOk b) (sp : Span) (hc : b.cur = some sp) :
    startOf (emit b).map b.codeLen = some sp.start := by
  simp only [emit, hc]
  split
  · rename_i heq
    rw [startOf, lookup_all_le _ _ fun e he => Nat.le_of_lt (hok.2 e he)]
    rw [Option.map_map]; exact heq
  · rw [startOf, lookup_append_le _ _ _ (Nat.le_refl _)]; rfl

/-- **span_of_instr**: for every sequence of `set_span` / `clear_span` / `emit` calls, every
instruction emitted under a span `sp` is later looked up to a span that starts where `sp`
starts — i.e. the location reported for an instruction is the one set when it was emitted. -/
theorem span_of_instr (ops : List BOp) :
    ∀ (b : Builder) (log : List (Nat × Option Span)), MapOk b →
      (∀ p ∈ log, p.1 < b.codeLen ∧ ∀ sp, p.2 = some sp → startOf b.map p.1 = some sp.start) →
      ∀ p ∈ (brun b ops log).2, ∀ sp, p.2 = some sp → startOf (brun b ops log).1.map p.1 = some sp.start := by
  induction ops with
  | nil => intro b log _ hl p hp sp hsp; exact (hl p hp).2 sp hsp
  | cons op t ih =>
    intro b log hok hl
    cases op with
    | setSpan s => exact ih _ log hok hl
    | clearSpan => exact ih _ log hok hl
    | emit =>
      refine ih _ _ (mapOk_step b .emit hok) fun p hp => ?_
      rcases List.mem_append.mp hp with h1 | h1
      · -- an earlier instruction: the emission leaves its lookup alone
        obtain ⟨hlt, hst⟩ := hl p h1
        exact ⟨Nat.lt_succ_of_lt hlt, fun sp hsp => (startOf_emit_old b p.1 hlt).trans (hst sp hsp)⟩
      · -- the new instruction: the last entry starts where its span starts already, or one is appended
        rw [List.mem_singleton.mp h1]
        exact ⟨Nat.lt_succ_self _, fun sp hsp => startOf_emit_new b hok sp hsp⟩

/-! ## non-vacuity -/
-- the string holds U+2028 (not displayed) between `x` and `yz`: two line terminators, CR and TAB are columns
example : posAfter "ab\r\n\tx yz".toList = { line := 3, col := 3 } := by decide
example : (brun Builder.init [.setSpan ⟨0, 1, 1⟩, .emit, .emit, .setSpan ⟨7, 2, 3⟩, .emit, .clearSpan, .emit] []).1.map
    = [⟨0, ⟨0, 1, 1⟩⟩, ⟨2, ⟨7, 2, 3⟩⟩] := by decide
example : lookup [⟨0, ⟨0, 1, 1⟩⟩, ⟨2, ⟨7, 2, 3⟩⟩] 1 = some ⟨0, 1, 1⟩ ∧ lookup [⟨0, ⟨0, 1, 1⟩⟩, ⟨2, ⟨7, 2, 3⟩⟩] 2 = some ⟨7, 2, 3⟩
    ∧ lookup [⟨3, ⟨0, 1, 1⟩⟩] 1 = none := by decide

end TsrunVerif.Pos
