import TsrunVerif.Lemmas.Erase
import TsrunVerif.Gen.TypeKinds
/-!
C03 — TypeScript type syntax is erased: annotations never change behaviour.
Property theorems over M-Erase (`Model/Erase.lean`).
-/
namespace TsrunVerif.Erase

/-- **Erasure removes all static syntax**: for every program (every decoration drawn from the type
grammar at every position the model has), the erased program carries no annotation, type
argument, assertion, non-null mark, modifier, overload signature or type-only statement. -/
theorem strip_plain (p : Prog) : plainSs (strip p) = true := plain_stripSs p

/-- **Erasure changes nothing else**: a program without static syntax is its own erasure. -/
theorem strip_of_plain (p : Prog) (h : plainSs p = true) : strip p = p := stripSs_of_plain p h

/-- **Erasure is a projection**: erasing twice is erasing once. -/
theorem strip_idem (p : Prog) : strip (strip p) = strip p :=
  strip_of_plain (strip p) (strip_plain p)

/-- two programs are annotation variants of each other when they erase to the same program -/
def Variant (p q : Prog) : Prop := strip p = strip q

theorem variant_refl (p : Prog) : Variant p p := rfl
theorem variant_symm {p q : Prog} (h : Variant p q) : Variant q p := h.symm
theorem variant_trans {p q r : Prog} (h₁ : Variant p q) (h₂ : Variant q r) : Variant p r := h₁.trans h₂

/-- every program is a variant of its erasure: removing all static syntax stays in the class -/
theorem variant_strip (p : Prog) : Variant p (strip p) := (strip_idem p).symm

/-- **Annotations never change behaviour.** TypeScript's meaning of a program is the meaning of its
erasure: for *any* semantics `sem` of plain programs (outcome tuples, bytecode, …), all annotation
variants of a program - in particular the program and its fully erased form - get the same
meaning. -/
theorem variants_agree {α : Type} (sem : Prog → α) (p q : Prog) (h : Variant p q) :
    sem (strip p) = sem (strip q) := by rw [h]

/-- the type grammar of the model covers every kind of type node tsrun's parser can build
(`Gen/TypeKinds.lean` is regenerated from /repo/src/ast.rs on every run). -/
theorem kinds_covered : TsrunVerif.Gen.typeKinds.all (fun k => coveredKinds.contains k) = true := by decide +kernel

-- non-vacuity: a decorated program whose erasure differs from it and is plain
example : strip [.typeAlias "T" [] (.kw "number"),
                 .decl "const" "x" false (some (.union [.kw "number", .lit "'a'"])) (.asT (.nonNull (.var "y")) (.kw "any"))]
        = [.decl "const" "x" false none (.var "y")] := by rfl

end TsrunVerif.Erase
