import TsrunVerif.Model.StepCost
import TsrunVerif.Gen.Reentrant
import TsrunVerif.Lemmas.ReentrantAllow

/-!
# C06 — the host keeps control
-/
namespace TsrunVerif.StepCost

/-- **step_unit**: a step that dispatches a trampolined instruction — every ordinary instruction,
every script-to-script call and return — executes exactly one instruction and does not touch
the native stack. -/
theorem step_unit (i : Instr) (h : isTrampolined i = true) : cost i = 1 ∧ nativeDepth i = 0 := by
  cases i <;> simp_all [isTrampolined, cost, nativeDepth]

/-- so in the trampolined fragment `k` steps execute exactly `k` instructions: a host that
counts steps counts work. -/
theorem steps_count_work (is : List Instr) (h : ∀ i ∈ is, isTrampolined i = true) :
    costList is = is.length ∧ nativeDepthList is = 0 := by
  induction is with
  | nil => simp [costList, nativeDepthList]
  | cons i t ih =>
    have hi := step_unit i (h i (by simp))
    have ht := ih (fun j hj => h j (by simp [hj]))
    simp [costList, nativeDepthList, hi.1, hi.2, ht.1, ht.2]; omega

/-- script call depth is carried by explicit frames only: any depth of trampolined calls needs
no native stack (`nativeDepthList = 0`), so it is limited by the host's budget alone. -/
theorem deep_script_calls_no_native_stack (n : Nat) :
    scriptDepth (List.replicate n .call) 0 = n ∧ nativeDepthList (List.replicate n .call) = 0 := by
  constructor
  · have : ∀ d, scriptDepth (List.replicate n .call) d = d + n := by
      induction n with
      | zero => intro d; simp [scriptDepth]
      | succ k ih => intro d; simp [List.replicate_succ, scriptDepth, ih]; omega
    simpa using this 0
  · exact (steps_count_work _ (by intro i hi; rw [List.eq_of_mem_replicate hi]; rfl)).2

/-- **step_bounded is false** for re-entrant natives (known finding, one site per native of
`Gen.reentrantNatives`): for every bound `B` there is a single instruction whose step executes
more than `B` instructions — a native whose callback loops. -/
theorem step_unbounded_with_reentrant_native : ∀ B : Nat, ∃ i : Instr, cost i > B := by
  intro B
  refine ⟨.native (List.replicate B .plain), ?_⟩
  have : costList (List.replicate B .plain) = B := by
    have := (steps_count_work (List.replicate B .plain) (by intro i hi; rw [List.eq_of_mem_replicate hi]; rfl)).1
    simpa using this
  simp [cost, this]

/-- native depth equals the nesting of re-entrant natives — unbounded by the grammar … -/
def nest : Nat → Instr
  | 0 => .plain
  | n + 1 => .native [nest n]

theorem native_depth_of_nest (n : Nat) : nativeDepth (nest n) = n := by
  induction n with
  | zero => rfl
  | succ k ih => simp [nest, nativeDepth, nativeDepthList, ih]; omega

/-- … which is why the guard exists: a re-entry is accepted only while the native stack used
stays within the budget, so accepted nesting never uses more than `budget` (+ one frame). -/
theorem guard_bounds_stack (budget used : Nat) (h : guardAccepts budget used = true) : used ≤ budget := by
  simpa [guardAccepts] using h

/-- **alloc_guarded**: an accepted dense-array length needs at most 2^27 element slots, an
accepted `repeat` at most 2^29 bytes — whatever number up to 2^53 (or beyond) the script asked for. -/
theorem alloc_guarded (n unitLen count : Nat) :
    (arrayLengthAccepted n = true → n ≤ 2 ^ 27) ∧ (repeatAccepted unitLen count = true → count * unitLen ≤ 2 ^ 29) := by
  unfold arrayLengthAccepted repeatAccepted maxArrayLength maxStringLength
  exact ⟨fun h => of_decide_eq_true h, fun h => of_decide_eq_true h⟩

theorem huge_refused : arrayLengthAccepted 4294967295 = false ∧ arrayLengthAccepted (2 ^ 53) = false ∧
    repeatAccepted 1 10000000000 = false := by decide

end TsrunVerif.StepCost

namespace TsrunVerif.Gen
/-- obligation over the generated inventory (re-extracted from /repo/src on every run): every
native that calls back into the interpreter is one of the reviewed, recorded sites. -/
theorem reentrant_allowed : reentrantNatives.all (fun x => allowedReentrant.contains x) = true := by
  decide +kernel
end TsrunVerif.Gen
