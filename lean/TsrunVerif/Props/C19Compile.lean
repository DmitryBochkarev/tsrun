import TsrunVerif.Props.C19
import TsrunVerif.Props.C01Compile

/-!
# C19 over M-Compile: every stepping schedule of a compiled program agrees with running it at once,
and with the reference semantics

`Props/C19.lean` proves the schedule independence for an arbitrary deterministic step function; here
the step function is the VM of M-Compile (`stepH`, with the try stack), the program is any statement
of the modelled core, and the result is the one the reference semantics prescribes.
-/
namespace TsrunVerif.Compile
open TsrunVerif.Run

section
variable {V Err : Type} (sem : Sem V Err)

/-- the VM of M-Compile as a `step` in the sense of M-Run -/
def vmStep (code : List Op) (s : St V) : Sum (St V) (Out V Err) :=
  match stepH sem code s with
  | .next s' => .inl s'
  | o => .inr o

theorem run_eq_advance (code : List Op) : ∀ (k : Nat) (s : St V),
    run sem code k s = match advance (vmStep sem code) k s with
      | .inl _ => none
      | .inr o => some o
  | 0, s => by simp [run, advance]
  | k + 1, s => by
    simp only [run, advance, vmStep]
    cases h : stepH sem code s with
    | next s' => simp only []; exact run_eq_advance code k s'
    | halt t => rfl
    | throw e t => rfl
    | fault => rfl

/-- **any schedule, one result**: driving the compiled program in any chunks (one instruction per
    `step()` call included, with arbitrary pauses) is running it for the total number of instructions -/
theorem compiled_chunks_agree (code : List Op) (chunks : List Nat) (s : St V) :
    driveChunks (vmStep sem code) chunks s = advance (vmStep sem code) chunks.sum s :=
  run_eq_steps _ chunks s

/-- `ended_under_every_schedule` for the VM -/
theorem run_under_every_schedule {code : List Op} {k : Nat} {s : St V} {o : Out V Err} (hk : run sem code k s = some o)
    (chunks : List Nat) (hle : k ≤ chunks.sum) : driveChunks (vmStep sem code) chunks s = .inr o := by
  rw [run_eq_advance] at hk
  refine ended_under_every_schedule _ ?_ chunks hle
  cases ha : advance (vmStep sem code) k s with
  | inl t => simp [ha] at hk
  | inr o' => simp [ha] at hk; rw [hk]

/-- **and that result is the reference semantics'**: a program whose evaluation completes with
    environment `env'` halts with `env'` under EVERY schedule that grants it enough instructions -/
theorem completes_under_every_schedule (s : Stmt) (code : List Op) (hc : compileProgram s = some code)
    (fuel : Nat) (env env' : Env V) (u : Unit) (h : evalS sem fuel s env = some (.ok u env')) (regs : Reg → V) :
    ∃ K regs', ∀ chunks : List Nat, K ≤ chunks.sum →
      driveChunks (vmStep sem code) chunks ⟨0, regs, env, []⟩ = .inr (.halt ⟨code.length - 1, regs', env', []⟩) := by
  obtain ⟨k, regs', hk⟩ := program_completes sem s code hc fuel env env' u h regs
  exact ⟨k, regs', run_under_every_schedule sem hk⟩

/-- the same for a program that ends with an uncaught error -/
theorem throws_under_every_schedule (s : Stmt) (code : List Op) (hc : compileProgram s = some code)
    (fuel : Nat) (env env' : Env V) (er : Err) (h : evalS sem fuel s env = some (.thrown er env')) (regs : Reg → V) :
    ∃ K pc regs', ∀ chunks : List Nat, K ≤ chunks.sum →
      driveChunks (vmStep sem code) chunks ⟨0, regs, env, []⟩ = .inr (.throw er ⟨pc, regs', env', []⟩) := by
  obtain ⟨k, pc, regs', hk⟩ := program_throws sem s code hc fuel env env' er h regs
  exact ⟨k, pc, regs', run_under_every_schedule sem hk⟩

end

-- non-vacuity: `sumSquares` (a loop) stepped 1 + 3 + 0 + 500 instructions
example : (match (codeS sumSquares 0 0).map (fun code =>
      driveChunks (vmStep intSem (code ++ [.halt])) [1, 3, 0, 500] ⟨0, fun _ => 0, [("i", 0), ("s", 0)], []⟩) with
    | some (.inr (.halt s)) => s.env | _ => []) = [("i", 5), ("s", 30)] := by decide

end TsrunVerif.Compile
