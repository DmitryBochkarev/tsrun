import TsrunVerif.Model.Ffi
/-!
C17 — the C API is memory-safe and total for every call sequence.
Property theorems over M-Ffi (`Model/Ffi.lean`).
-/
namespace TsrunVerif.Ffi

/-- executable form of `WellFormed` (evaluated by the driver on every state of every generated run) -/
def wfB (s : St) : Bool :=
  let ok (p : Prim) : Bool := match objIdOf p with | some id => decide (id < s.objs.length) | none => true
  s.vals.all (fun v => match v with | some p => ok p | none => true)
    && (List.range s.objs.length).all (fun i => (s.objs.getD i default).id == i)
    && s.objs.all (fun o => o.props.all (fun kv => ok kv.2) && o.elems.all ok)
    && s.globals.all (fun g => ok g.2.2)

theorem wf_init : wfB St.init = true := by decide

theorem sanitize_objId (s : St) (q : Prim) (id : Nat) (h : objIdOf (sanitize s q) = some id) : objIdOf q = some id := by
  unfold sanitize at h
  split at h
  · split at h
    · exact h
    · cases h
  · exact h

theorem sanitize_prim (s : St) (p : Prim) (h : objIdOf p = none) : sanitize s p = p := by
  simp [sanitize, h]

/-- the raw content of a value slot -/
def rawOf (s : St) (v : Int) : Option Prim := if v < 0 then none else s.vals.getD v.toNat none

theorem valOf_eq (s : St) (v : Int) : valOf s v = (rawOf s v).map (sanitize s) := by
  simp only [valOf, rawOf]; split <;> rfl

theorem rawOf_mem (s : St) (o : Int) (q : Prim) (h : rawOf s o = some q) : some q ∈ s.vals := by
  unfold rawOf at h
  split at h
  · cases h
  · rw [List.getD_eq_getElem?_getD] at h
    cases hv : s.vals[o.toNat]? with
    | none => rw [hv] at h; cases h
    | some x => rw [hv] at h; exact h ▸ List.mem_of_getElem? hv

theorem valOf_prim {s : St} {v : Int} {q : Prim} (hq : rawOf s v = some q) (hprim : objIdOf q = none) :
    valOf s v = some q := by
  rw [valOf_eq, hq, Option.map_some, sanitize_prim s q hprim]

/-! ### what `step` does for the operations the theorems below reason about (the full `step` is
too large to unfold again in every proof) -/

theorem step_free (s : St) (v : Int) : step s (.free v) =
    if v < 0 then (s, "ok") else ({ s with vals := s.vals.set v.toNat none }, "ok") := rfl

theorem step_ctxFree (s : St) (c : Int) : step s (.ctxFree c) =
    if ctxOk s c then ({ s with ctxAlive := s.ctxAlive.set c.toNat false }, "ok") else (s, "ok") := rfl

theorem getters_congr {s₁ s₂ : St} {v₁ v₂ : Int} (h : valOf s₁ v₁ = valOf s₂ v₂) :
    (step s₁ (.typeOf v₁)).2 = (step s₂ (.typeOf v₂)).2 ∧
    (step s₁ (.getNum v₁)).2 = (step s₂ (.getNum v₂)).2 ∧
    (step s₁ (.getStr v₁)).2 = (step s₂ (.getStr v₂)).2 := by
  have t (x : St) (v : Int) : (step x (.typeOf v)).2 = (match valOf x v with | some p => typeName p | none => "undefined") := rfl
  have n (x : St) (v : Int) : (step x (.getNum v)).2 = (match valOf x v with | some (.num k) => toString k | _ => "NaN") := rfl
  have g (x : St) (v : Int) : (step x (.getStr v)).2 = (match valOf x v with | some (.str k) => "s:" ++ k | _ => "null") := rfl
  simp only [t, n, g, h, and_self]

/-- **Reads and writes only touch objects that exist.** In a well-formed state every heap object an
operation reads or writes - whatever handles, NULLs or survivors of released contexts it is given -
is present in the store. -/
theorem touches_exist (s : St) (h : WellFormed s) (op : Op) : ∀ id ∈ touches s op, id < s.objs.length := by
  have key : ∀ (o : Int) (id : Nat),
      id ∈ (match valOf s o with | some p => (objIdOf p).toList | none => []) → id < s.objs.length := by
    intro o id hid
    rw [valOf_eq] at hid
    cases hv : rawOf s o with
    | none => simp [hv] at hid
    | some q =>
      simp only [hv, Option.map_some, Option.mem_toList] at hid
      exact h.1 (some q) (rawOf_mem s o q hv) q rfl id (sanitize_objId s q id hid)
  intro id hid
  -- nine kinds of operation dereference one handle, the rest none
  unfold touches at hid
  split at hid
  iterate 9 exact key _ id hid
  cases hid

/-- **NULL arguments are reported, never dereferenced.** With a NULL context the data operations
return their error token and change nothing but the NULL result slot. -/
theorem null_context_reported (s : St) (o v : Int) (k : Option String) (i : Nat) :
    (step s (.get (-1) o k)).2 = "err:NULL context" ∧ (step s (.set (-1) o k v)) = (s, "err:NULL context") ∧
    (step s (.del (-1) o k)) = (s, "err:NULL context") ∧ (step s (.has (-1) o k)) = (s, "false") ∧
    (step s (.keys (-1) o)) = (s, "null") ∧ (step s (.aset (-1) o i v)) = (s, "err:NULL context") ∧
    (step s (.apush (-1) o v)) = (s, "err:NULL context") ∧ (step s (.gset (-1) k v)) = (s, "err:NULL context") ∧
    (step s (.objNew (-1))).2 = "err:NULL context" ∧ (step s (.mk (-1) .undef)).2 = "null" :=
  -- `ctxOk s (-1)` computes to `false`, and it is the first thing every one of these tests
  ⟨rfl, rfl, rfl, rfl, rfl, rfl, rfl, rfl, rfl, rfl⟩

theorem null_value_reported (s : St) (c : Int) (k : String) (hc : ctxOk s c = true) :
    (step s (.get c (-1) (some k))).2 = "err:NULL object" ∧ (step s (.set c (-1) (some k) 0)) = (s, "err:NULL object") ∧
    (step s (.typeOf (-1))).2 = "undefined" ∧ (step s (.getStr (-1))).2 = "null" ∧ (step s (.alen (-1))).2 = "0" ∧
    (step s (.free (-1))) = (s, "ok") := by
  simp [step, hc, valOf, nullVal]

/-- **Release order is irrelevant.** Releasing a value box and releasing a context commute: the
state reached is the same whichever comes first. -/
theorem free_commutes_ctx_free (s : St) (v c : Int) :
    (step (step s (.free v)).1 (.ctxFree c)).1 = (step (step s (.ctxFree c)).1 (.free v)).1 := by
  -- one writes `vals`, the other `ctxAlive`, and neither reads what the other writes
  have hc' (x : List (Option Prim)) : ctxOk { s with vals := x } c = ctxOk s c := rfl
  by_cases hv : v < 0 <;> cases hc : ctxOk s c <;> simp [step_free, step_ctxFree, hv, hc, hc']

/-- **Primitive values outlive their context.** What the pure getters report about a number,
string, boolean, null or undefined is the same before and after its context (or any other) is
released. -/
theorem getters_survive_ctx_free (s : St) (c v : Int) (q : Prim) (hq : rawOf s v = some q) (hprim : objIdOf q = none) :
    (step (step s (.ctxFree c)).1 (.typeOf v)).2 = (step s (.typeOf v)).2 ∧
    (step (step s (.ctxFree c)).1 (.getNum v)).2 = (step s (.getNum v)).2 ∧
    (step (step s (.ctxFree c)).1 (.getStr v)).2 = (step s (.getStr v)).2 := by
  -- releasing a context leaves `vals`, all that `rawOf` reads, alone
  have hraw : rawOf (step s (.ctxFree c)).1 v = some q := by
    rw [step_ctxFree]; split <;> exact hq
  exact getters_congr ((valOf_prim hraw hprim).trans (valOf_prim hq hprim).symm)

/-- **An object box that outlives its context is never dereferenced**: it reads as `undefined`, so
no operation touches the released heap through it. -/
theorem survivor_touches_nothing (s : St) (o : Int) (q : Prim) (ob : Obj)
    (hq : rawOf s o = some q) (hob : objIdOf q >>= findObj s = some ob) (hdead : s.ctxAlive.getD ob.ctx false = false)
    (c : Int) (k : Option String) :
    touches s (.get c o k) = [] ∧ touches s (.alen o) = [] ∧ (step s (.typeOf o)).2 = "undefined" := by
  have hv : valOf s o = some .undef := by
    rw [valOf_eq, hq]
    simp only [Option.map_some, sanitize, hob, hdead, Bool.false_eq_true, if_false]
  have ht : (match valOf s o with | some p => (objIdOf p).toList | none => []) = [] := by rw [hv]; rfl
  have hty : (match valOf s o with | some p => typeName p | none => "undefined") = "undefined" := by
    rw [hv]; rfl
  exact ⟨ht, ht, hty⟩

/-- `free` clears its own slot and leaves alone `objs` and `ctxAlive`, which is all that `sanitize`
reads. -/
theorem valOf_free_ne (s : St) (v d : Int) (hne : v.toNat ≠ d.toNat) :
    valOf (step s (.free v)).1 d = valOf s d := by
  rw [step_free]
  split
  · rfl
  · have hsan : sanitize { s with vals := s.vals.set v.toNat none } = sanitize s := rfl
    simp only [valOf, hsan, List.getD_eq_getElem?_getD, List.getElem?_set_ne hne]

/-- **Two boxes, one object.** A duplicate is an independent box: releasing the original leaves the
duplicate's view unchanged. -/
theorem dup_independent (s : St) (c v : Int) (hv : 0 ≤ v) (hlt : v.toNat < s.vals.length) :
    let s1 := (step s (.dup c v)).1
    let d : Int := s.vals.length
    (step (step s1 (.free v)).1 (.typeOf d)).2 = (step s1 (.typeOf d)).2 :=
  (getters_congr (valOf_free_ne _ v _ (by rw [Int.toNat_natCast]; omega))).1

-- non-vacuity
example : (run [.ctxNew, .objNew 0, .mk 0 (.num 7), .set 0 0 (some "k") 1, .ctxFree 0, .getNum 1, .free 0, .free 1]).2 =
    ["c0", "v0:object", "v1:number", "ok", "ok", "7", "ok", "ok"] := by decide
example : wfB (run [.ctxNew, .arrNew 0, .mk 0 (.str "x"), .apush 0 0 1, .aget 0 0 0, .free 1]).1 = true := by decide

end TsrunVerif.Ffi
