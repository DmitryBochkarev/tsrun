import TsrunVerif.Gen.ResetFields
/-!
# C02 / C14 — a reused slot is a fresh object (M-Reset)

The collector does not free memory: a swept object is `reset()` and its slot is handed to a later allocation.  Garbage
collection is invisible only if nothing of the dead object survives that: field by field, `reset` must leave what
`JsObject::new()` would build.  `Gen/ResetFields.lean` is regenerated from `src/value.rs` on every run (the field list of
`struct JsObject`, the assignments of `impl Reset for JsObject`, the literal of `JsObject::new()`).

Model: an object is a finite map field ↦ value; `resetSlot` applies the assignments of the current source to ANY state
the dead object may have been left in.  `reset_forgets`: the result does not depend on that state and is the fresh object.
-/
namespace TsrunVerif.ResetObj
open TsrunVerif.Gen

/-- reviewed equivalence: clearing the property storage in place leaves the storage `PropertyStorage::new()` builds
(the retained capacity is not observable by a program) -/
def norm (field v : String) : String :=
  if v = "<clear>" ∧ field = "properties" then "PropertyStorage::new()" else v

/-- an object state: the value held by every field (fields absent from the list hold the given default text) -/
abbrev Obj := List (String × String)

/-- the slot after `reset()`: a field the impl assigns holds the assigned value, any other field keeps the dead object's -/
def resetSlot (dead : Obj) : Obj :=
  objFields.map fun f => (f, match objReset.lookup f with
    | some v => norm f v
    | none => (dead.lookup f).getD "<stale>")

/-- the object `JsObject::new()` builds -/
def fresh : Obj := objFields.map fun f => (f, (objNew.lookup f).getD "<unset>")

/-- the obligation over the current source: every field of the struct is assigned by `reset`, to the value `new()` gives it -/
def resetIsFresh : Bool :=
  objFields.all fun f => (objNew.lookup f).isSome && ((objReset.lookup f).map (norm f) == objNew.lookup f)

theorem reset_is_fresh : resetIsFresh = true := by decide +kernel

/-- whatever the dead object held, the reused slot is the fresh object: nothing survives a sweep -/
theorem reset_forgets (dead : Obj) : resetSlot dead = fresh := by
  unfold resetSlot fresh
  apply List.map_congr_left
  intro f hf
  have h := (List.all_eq_true.mp reset_is_fresh) f hf
  simp only [Bool.and_eq_true, beq_iff_eq] at h
  obtain ⟨h1, h2⟩ := h
  -- `new()` gives `f` a value `w`, and `reset` assigns a `v` that `norm` identifies with it
  obtain ⟨w, hw⟩ := Option.isSome_iff_exists.mp h1
  obtain ⟨v, hv, hn⟩ := Option.map_eq_some_iff.mp (h2.trans hw)
  simp only [hv, hw, hn, Option.getD_some]

/-- two dead objects in any two states leave indistinguishable slots (the statement C02 needs: the history of a slot is invisible) -/
theorem reset_history_invisible (d₁ d₂ : Obj) : resetSlot d₁ = resetSlot d₂ := by
  rw [reset_forgets, reset_forgets]

/-- non-vacuity: a sealed, frozen dead object with properties really differs from the fresh one before the reset -/
example : ([("sealed", "true"), ("frozen", "true"), ("properties", "{a: 1}")] : Obj).lookup "sealed" ≠ fresh.lookup "sealed" := by decide

end TsrunVerif.ResetObj
