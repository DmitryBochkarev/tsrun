import TsrunVerif.Lemmas.HeapStep

/-!
# C13 — the collector implements guard reachability exactly

Property theorems over M-Heap (`Model/Heap.lean`).  They quantify over every heap
state satisfying the invariant `Inv` (established by `inv_init`, preserved by every
public operation: `inv_step`, hence true of every reachable state: `inv_run`) and over
every operation list (unbounded length, any arguments).

Proved in the lemma files:
`mark_sound`, `mark_complete`, `mark_terminates`, `collect_exact`,
`collect_keeps_reachable`, `collect_resets_unreachable`, `inv_init`, `inv_step`.
-/
namespace TsrunVerif.Heap

theorem inv_run (ops : List Op) (h : Heap) (hi : Inv h) : Inv (run h ops) :=
  List.foldlRecOn ops step hi fun h hi op _ => inv_step h op hi

/-- what the user can read through a handle to slot `i`. -/
def content (h : Heap) (i : Nat) : Option (Nat × List Nat) :=
  (h.slots[i]?).map (fun s => (s.payload, s.links))

/-- operations that write *through a handle* to slot `i`. -/
def Op.writes (i : Nat) : Op → Prop
  | .link a _ => a = i
  | .unlink a _ => a = i
  | .write a _ => a = i
  | _ => False

/-- **one step**: an operation that does not write through a handle to slot `i`
leaves the contents of `i` alone as long as `i` is reachable from a live guard. -/
theorem step_keeps_reachable (h : Heap) (op : Op) (i : Nat) (hi : Inv h)
    (hr : Reach h i) (hw : ¬ op.writes i) :
    content (step h op) i = content h i := by
  -- most operations are `if c then h' else h` with `c` a liveness test; `content` reads `slots[i]?` only
  have guarded {c : Prop} [Decidable c] {h' : Heap} (hk : c → h'.slots[i]? = h.slots[i]?) :
      content (if c then h' else h) i = content h i := by
    split
    · exact congrArg (Option.map _) (hk ‹_›)
    · rfl
  cases op with
  | alloc g => exact guarded fun hal => alloc_keeps h g i hi hal hr
  | collect => exact guarded fun _ => collect_keeps_reachable h i hr
  | dropHeap =>
    show Option.map _ (h.slots.map _)[i]? = Option.map _ h.slots[i]?
    rw [List.getElem?_map]
    cases h.slots[i]? <;> rfl
  | link a b | unlink a p | write a v =>
    exact guarded fun _ => by rw [setAt_eq_modify, List.getElem?_modify_ne _ _ hw]
  | mkGuard | dropGuard g | unguard g s | clear g | handleOp => rfl
  | guard g s | setThreshold n => exact guarded fun _ => rfl

/-- "`i` stays reachable from a live guard and nobody writes to it" along a history. -/
def Quiet (i : Nat) : Heap → List Op → Prop
  | _, [] => True
  | h, op :: ops => Reach h i ∧ ¬ op.writes i ∧ Quiet i (step h op) ops

/-- **C13, first clause, full statement**: for every history, an object keeps its
contents for as long as it is reachable from a live guard (and is not written to). -/
theorem reachable_keeps_contents (ops : List Op) (h : Heap) (i : Nat) (hi : Inv h)
    (hq : Quiet i h ops) : content (run h ops) i = content h i := by
  induction ops generalizing h with
  | nil => rfl
  | cons op ops ih =>
    obtain ⟨hr, hw, hq'⟩ := hq
    have := ih (step h op) (inv_step h op hi) hq'
    simp only [run, List.foldl_cons] at this ⊢
    rw [this]
    exact step_keeps_reachable h op i hi hr hw

/-- holds in every state of a live heap, not only after a collection: the free list enumerates the
pooled slots without repetition. -/
theorem live_count (h : Heap) (hi : Inv h) (hal : h.alive = true) :
    (stats h).2.2 = ((List.range h.slots.length).filter (fun i => !pooledAt h i)).length := by
  obtain ⟨hnd, hiff⟩ := (inv_iff h).mp hi hal
  have hperm : h.free.Perm ((List.range h.slots.length).filter (pooledAt h)) :=
    (List.perm_ext_iff_of_nodup hnd (nodup_filter_range _ _)).mpr fun i => by
      rw [hiff i, List.mem_filter, List.mem_range]
  have hsum := List.length_eq_countP_add_countP (pooledAt h) (l := List.range h.slots.length)
  simp only [List.countP_eq_length_filter, List.length_range, ← hperm.length_eq, decide_not,
    Bool.decide_eq_true] at hsum
  exact Nat.sub_eq_of_eq_add' hsum

/-- **C13, second clause**: after a collection exactly the objects reachable from live
guards are counted live (`live_objects` is the length of a duplicate-free list of
precisely the reachable slots), all others are reset and on the free list
(`collect_resets_unreachable`). -/
theorem stats_exact (h : Heap) (hi : Inv h) (hal : h.alive = true) :
    ∃ l : List Nat, l.Nodup ∧ (∀ i, i ∈ l ↔ Reach h i) ∧ (stats (collect h)).2.2 = l.length := by
  refine ⟨_, nodup_filter_range _ _, fun i => ?_,
    live_count (collect h) (inv_collect h hi) ((collect_alive h).trans hal)⟩
  rw [← collect_exact h i, List.mem_filter, List.mem_range]
  exact ⟨fun hp => by simpa using hp.2, fun hp => ⟨lt_of_not_pooled hp, by simp [hp]⟩⟩

/-- the arithmetic behind the unchecked bitmap accesses: slot index `i` of an arena with
`c` full-or-partial chunks addresses chunk `i / 256 < c`, bit `i % 256 < 256`, word
`(i % 256) / 64 < 4`; and distinct indices address distinct (chunk, bit) pairs. -/
theorem bitmap_index_in_bounds (i c : Nat) (h : i < c * 256) :
    i / 256 < c ∧ i % 256 < 256 ∧ (i % 256) / 64 < 4 ∧ (i % 256) % 64 < 64
      ∧ (i / 256) * 256 + ((i % 256) / 64) * 64 + (i % 256) % 64 = i :=
  have hm : i % 256 < 256 := Nat.mod_lt i (by decide)
  ⟨Nat.div_lt_of_lt_mul (Nat.mul_comm c 256 ▸ h), hm, Nat.div_lt_of_lt_mul hm, Nat.mod_lt _ (by decide),
    by rw [Nat.add_assoc, Nat.div_add_mod', Nat.div_add_mod']⟩

/-! ## non-vacuity -/

/-- a concrete reachable state: guard 0 roots slot 0 which links to slot 1; slot 2 is garbage. -/
def demo : Heap := run Heap.init
  [.setThreshold 0, .mkGuard, .alloc 0, .alloc 0, .alloc 0, .link 0 1, .write 1 42, .unguard 0 1, .unguard 0 2]

example : Inv demo := inv_run _ _ inv_init
example : rootsOf demo = [0] ∧ succs demo 0 = [1] := by decide
private theorem reach1 (h : Heap) (h0 : 0 ∈ rootsOf h) (h1 : 1 ∈ succs h 0) : Reach h 1 :=
  Reach.step (Reach.root h0) h1
example : Reach demo 1 := reach1 _ (by decide) (by decide)
example : Quiet 1 demo [.collect, .alloc 0, .write 0 7, .collect] := by
  refine ⟨reach1 _ (by decide) (by decide), by simp [Op.writes], ?_⟩
  refine ⟨reach1 _ (by decide) (by decide), by simp [Op.writes], ?_⟩
  refine ⟨reach1 _ (by decide) (by decide), by simp [Op.writes], ?_⟩
  exact ⟨reach1 _ (by decide) (by decide), by simp [Op.writes], trivial⟩
example : content (collect demo) 1 = some (42, []) ∧ content (collect demo) 2 = some (0, []) ∧
    stats (collect demo) = (3, 1, 2) := by decide

end TsrunVerif.Heap
