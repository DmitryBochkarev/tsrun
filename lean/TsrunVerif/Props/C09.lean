import TsrunVerif.Model.Mod

/-!
# C09 — module graphs load once, dependencies first, whatever the host's order

Theorems over M-Mod for every dependency function `deps`, every loader state and *every*
visiting order `perm` of the hash map (any function returning a permutation of its argument).
-/
namespace TsrunVerif.Mod

def IsPerm (perm : List Nat → List Nat) : Prop := ∀ l, (perm l).Perm l

theorem isReady_iff (deps : Nat → List Nat) (st : St) (m : Nat) :
    isReady deps st m = true ↔ m ∉ st.loaded ∧ ∀ d ∈ deps m, d ∈ st.loaded := by
  simp [isReady]

theorem mem_readyList (deps : Nat → List Nat) (st : St) (m : Nat) :
    m ∈ readyList deps st ↔ m ∈ st.pending ∧ m ∉ st.loaded ∧ ∀ d ∈ deps m, d ∈ st.loaded := by
  rw [readyList, List.mem_filter, isReady_iff]

theorem process_induct (deps : Nat → List Nat) (perm : List Nat → List Nat) (P : St → Prop)
    (hround : ∀ st, P st → P (round deps perm st)) : ∀ (fuel : Nat) (st : St), P st → P (process deps perm fuel st) := by
  intro fuel
  induction fuel with
  | zero => exact fun st h => h
  | succ f ih =>
    intro st h
    rw [process]
    split
    · exact h
    · exact ih _ (hround st h)

/-- **exec_once** (one round): the execution log never repeats a module. -/
theorem round_loaded_nodup (deps : Nat → List Nat) (perm : List Nat → List Nat) (hp : IsPerm perm) (st : St)
    (hl : st.loaded.Nodup) (hq : st.pending.Nodup) : (round deps perm st).loaded.Nodup := by
  refine List.nodup_append.mpr ⟨hl, (hp _).nodup_iff.mpr (hq.sublist List.filter_sublist), ?_⟩
  rintro a ha _ hb rfl
  exact ((mem_readyList deps st a).mp ((hp _).mem_iff.mp hb)).2.1 ha

/-- **exec_once**: after any number of rounds every module body has run at most once. -/
theorem process_loaded_nodup (deps : Nat → List Nat) (perm : List Nat → List Nat) (hp : IsPerm perm) :
    ∀ (fuel : Nat) (st : St), st.loaded.Nodup → st.pending.Nodup →
      (process deps perm fuel st).loaded.Nodup ∧ (process deps perm fuel st).pending.Nodup :=
  fun fuel st hl hq => process_induct deps perm (fun st => st.loaded.Nodup ∧ st.pending.Nodup)
    (fun st h => ⟨round_loaded_nodup deps perm hp st h.1 h.2, h.2.sublist List.filter_sublist⟩) fuel st ⟨hl, hq⟩

/-- every module in the log `l` has all its imports in `seen` or earlier in `l`. -/
def DepsFirstFrom (deps : Nat → List Nat) : List Nat → List Nat → Prop
  | _, [] => True
  | seen, m :: t => (∀ d ∈ deps m, d ∈ seen) ∧ DepsFirstFrom deps (seen ++ [m]) t

def DepsFirst (deps : Nat → List Nat) (log : List Nat) : Prop := DepsFirstFrom deps [] log

theorem depsFirstFrom_mono (deps : Nat → List Nat) (l : List Nat) :
    ∀ (s1 s2 : List Nat), (∀ x ∈ s1, x ∈ s2) → DepsFirstFrom deps s1 l → DepsFirstFrom deps s2 l := by
  induction l with
  | nil => intros; trivial
  | cons m t ih =>
    intro s1 s2 hs h
    refine ⟨fun d hd => hs d (h.1 d hd), ih _ _ (fun x hx => ?_) h.2⟩
    rw [List.mem_append] at hx ⊢
    exact hx.imp_left (hs x)

theorem depsFirstFrom_append (deps : Nat → List Nat) (a b : List Nat) :
    ∀ seen, DepsFirstFrom deps seen a → DepsFirstFrom deps (seen ++ a) b → DepsFirstFrom deps seen (a ++ b) := by
  induction a with
  | nil => intro seen _ hb; simpa using hb
  | cons m t ih =>
    intro seen ha hb
    exact ⟨ha.1, ih _ ha.2 (by simpa using hb)⟩

theorem depsFirstFrom_of_all (deps : Nat → List Nat) (l : List Nat) :
    ∀ seen, (∀ m ∈ l, ∀ d ∈ deps m, d ∈ seen) → DepsFirstFrom deps seen l := by
  induction l with
  | nil => intros; trivial
  | cons m t ih =>
    intro seen h
    exact ⟨h m (by simp), ih _ fun x hx d hd => List.mem_append_left _ (h x (by simp [hx]) d hd)⟩

/-- **deps_first** (one round): a module body runs only after all modules it imports. -/
theorem round_depsFirst (deps : Nat → List Nat) (perm : List Nat → List Nat) (hp : IsPerm perm) (st : St)
    (h : DepsFirst deps st.loaded) : DepsFirst deps (round deps perm st).loaded := by
  refine depsFirstFrom_append deps _ _ [] h (depsFirstFrom_of_all deps _ _ fun m hm d hd => ?_)
  simpa using ((mem_readyList deps st m).mp ((hp _).mem_iff.mp hm)).2.2 d hd

/-- **deps_first**: for every number of rounds. -/
theorem process_depsFirst (deps : Nat → List Nat) (perm : List Nat → List Nat) (hp : IsPerm perm) :
    ∀ (fuel : Nat) (st : St), DepsFirst deps st.loaded → DepsFirst deps (process deps perm fuel st).loaded :=
  process_induct deps perm (fun st => DepsFirst deps st.loaded) (round_depsFirst deps perm hp)

/-- **load_terminates**: `pending.length + 1` rounds always suffice — afterwards nothing is
ready any more (every round that finds a ready module removes it from `pending`). -/
theorem process_terminates (deps : Nat → List Nat) (perm : List Nat → List Nat) :
    ∀ (fuel : Nat) (st : St), st.pending.length < fuel →
      readyList deps (process deps perm fuel st) = [] := by
  intro fuel
  induction fuel with
  | zero => exact fun st h => absurd h (Nat.not_lt_zero _)
  | succ f ih =>
    intro st h
    rw [process]
    split
    · assumption
    · rename_i hne
      obtain ⟨x, hx⟩ := List.exists_mem_of_ne_nil _ hne
      have hlt : (round deps perm st).pending.length < st.pending.length :=
        List.length_filter_lt_length_iff_exists.mpr ⟨x, ((mem_readyList deps st x).mp hx).1, by simpa using hx⟩
      exact ih _ (Nat.lt_of_lt_of_le hlt (Nat.le_of_lt_succ h))

/-- two loader states that differ only in the order of the execution log. -/
def Equiv (a b : St) : Prop := a.pending = b.pending ∧ ∀ x, x ∈ a.loaded ↔ x ∈ b.loaded

theorem Equiv.contains {a b : St} (h : Equiv a b) (x : Nat) : a.loaded.contains x = b.loaded.contains x :=
  Bool.eq_iff_iff.mpr (by simp [h.2 x])

theorem isReady_equiv (deps : Nat → List Nat) (a b : St) (h : Equiv a b) (m : Nat) :
    isReady deps a m = isReady deps b m := by
  simp only [isReady, h.contains]

theorem readyList_equiv (deps : Nat → List Nat) (a b : St) (h : Equiv a b) :
    readyList deps a = readyList deps b := by
  rw [readyList, readyList, h.1, funext (isReady_equiv deps a b h)]

theorem round_equiv (deps : Nat → List Nat) (p1 p2 : List Nat → List Nat) (h1 : IsPerm p1) (h2 : IsPerm p2)
    (a b : St) (h : Equiv a b) : Equiv (round deps p1 a) (round deps p2 b) := by
  refine ⟨by simp only [round, readyList_equiv deps a b h, h.1], fun x => ?_⟩
  simp only [round, List.mem_append, readyList_equiv deps a b h, (h1 _).mem_iff, (h2 _).mem_iff, h.2 x]

/-- **order_independent**: whatever order the hash map yields ready modules in, loading ends
with the same set of loaded modules and the same modules still pending — so the same exports
are wired and the same requests are made. -/
theorem process_order_independent (deps : Nat → List Nat) (p1 p2 : List Nat → List Nat)
    (h1 : IsPerm p1) (h2 : IsPerm p2) :
    ∀ (fuel : Nat) (a b : St), Equiv a b → Equiv (process deps p1 fuel a) (process deps p2 fuel b) := by
  intro fuel
  induction fuel with
  | zero => intro a b h; exact h
  | succ f ih =>
    intro a b h
    simp only [process, readyList_equiv deps a b h]
    split
    · exact h
    · exact ih _ _ (round_equiv deps p1 p2 h1 h2 a b h)

theorem unprovided_equiv (deps : Nat → List Nat) (a b : St) (h : Equiv a b) :
    ∀ x, x ∈ (a.pending.filter (fun m => !a.loaded.contains m && !isReady deps a m)) ↔
         x ∈ (b.pending.filter (fun m => !b.loaded.contains m && !isReady deps b m)) := by
  simp only [h.1, h.contains, isReady_equiv deps a b h, implies_true]

theorem mem_dedupe (l : List Nat) (x : Nat) : x ∈ dedupe l ↔ x ∈ l := by
  induction l with
  | nil => rfl
  | cons a t ih =>
    by_cases hx : x = a <;> simp [dedupe, ih, hx]

theorem dedupe_nodup (l : List Nat) : (dedupe l).Nodup := by
  induction l with
  | nil => exact List.nodup_nil
  | cons a t ih =>
    exact List.nodup_cons.mpr ⟨by simp [List.mem_filter], ih.sublist List.filter_sublist⟩

/-- **requests_canonical**: a request list names each missing module once … -/
theorem unprovided_nodup (deps : Nat → List Nat) (st : St) : (unprovided deps st).Nodup :=
  dedupe_nodup _

/-- … and names exactly the imports of supplied-but-blocked modules that are neither loaded
nor supplied (so nothing already available is requested again, and every request has an
importer among the pending modules). -/
theorem unprovided_spec (deps : Nat → List Nat) (st : St) (x : Nat) :
    x ∈ unprovided deps st ↔
      ∃ m ∈ st.pending, m ∉ st.loaded ∧ isReady deps st m = false ∧ x ∈ deps m ∧ x ∉ st.loaded ∧ x ∉ st.pending := by
  simp only [unprovided, mem_dedupe, List.mem_flatMap, List.mem_filter, Bool.and_eq_true, Bool.not_eq_true',
    List.contains_eq_mem, decide_eq_false_iff_not, and_assoc]

/-- only supplied modules are ever executed. -/
theorem executed_were_supplied (deps : Nat → List Nat) (perm : List Nat → List Nat) (hp : IsPerm perm) :
    ∀ (fuel : Nat) (st : St) (x : Nat), x ∈ (process deps perm fuel st).loaded → x ∈ st.loaded ∨ x ∈ st.pending := by
  intro fuel st x hx
  -- nothing enters `loaded` or `pending` that was in neither
  refine process_induct deps perm (fun st' => ∀ y, y ∈ st'.loaded ∨ y ∈ st'.pending → y ∈ st.loaded ∨ y ∈ st.pending)
    (fun st' h y hy => h y ?_) fuel st (fun _ h => h) x (Or.inl hx)
  rcases hy with hy | hy
  · exact (List.mem_append.mp hy).imp_right fun h2 => ((mem_readyList deps st' y).mp ((hp _).mem_iff.mp h2)).1
  · exact Or.inr (List.mem_filter.mp hy).1

/-! ## non-vacuity: a diamond 0 → {1,2} → 3 supplied in an awkward order -/
def diamond : Nat → List Nat := fun m => if m = 0 then [1, 2] else if m = 1 then [3] else if m = 2 then [3] else []

example : IsPerm id ∧ IsPerm List.reverse := ⟨fun _ => List.Perm.refl _, fun l => List.reverse_perm l⟩
example : (process diamond id 5 { loaded := [], pending := [0, 2, 1, 3] }).loaded = [3, 2, 1, 0] := by decide
example : (process diamond List.reverse 5 { loaded := [], pending := [0, 2, 1, 3] }).loaded = [3, 1, 2, 0] := by decide
example : unprovided diamond { loaded := [], pending := [0, 1] } = [2, 3] := by decide
example : DepsFirst diamond [3, 1, 2, 0] := by simp [DepsFirst, DepsFirstFrom, diamond]

end TsrunVerif.Mod
