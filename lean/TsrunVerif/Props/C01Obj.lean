import TsrunVerif.Model.Obj
import TsrunVerif.Lemmas.Assoc

/-!
# C01 (objects) — property theorems over M-Obj

Prototype chains of ANY length, for every key: `[[Get]]` finds the nearest holder; for-in reports
exactly the keys whose nearest holder has them enumerable, each once; bound functions compose by
concatenating their arguments, whatever the number of layers.
-/
namespace TsrunVerif.Obj

/-- objects above a key's nearest holder do not matter -/
theorem lookup_append_miss (pre rest : List O) (k : String) (h : ∀ o ∈ pre, own o k = none) :
    lookup (pre ++ rest) k = lookup rest k := by
  induction pre with
  | nil => rfl
  | cons o pre ih =>
    simp only [List.cons_append, lookup]
    rw [h o (List.mem_cons_self)]
    exact ih (fun o' ho' => h o' (List.mem_cons_of_mem _ ho'))

/-- **[[Get]] finds the nearest holder**, however long the chain below and above it -/
theorem lookup_nearest (pre rest : List O) (o : O) (k : String) (p : PropE)
    (hpre : ∀ o' ∈ pre, own o' k = none) (ho : own o k = some p) :
    lookup (pre ++ o :: rest) k = some p.val := by
  rw [lookup_append_miss pre (o :: rest) k hpre]
  simp [lookup, ho]

theorem lookup_none_iff (chain : List O) (k : String) : lookup chain k = none ↔ has chain k = false := by
  induction chain with
  | nil => simp [lookup, has]
  | cons o rest ih =>
    simp only [lookup, has, List.any_cons] at *
    cases h : own o k with
    | none => simpa [h] using ih
    | some p => simp

/-- does the nearest holder of `k` have it enumerable? -/
def nearestEnum : List O → String → Bool
  | [], _ => false
  | o :: rest, k =>
    match own o k with
    | some p => p.enumerable
    | none => nearestEnum rest k

/-- own keys are distinct (true of every object) -/
def WF (o : O) : Prop := (o.map (·.key)).Nodup

/-- with distinct own keys, `own` finds the one property that has the key -/
theorem own_eq_some_iff {o : O} (hwf : WF o) {k : String} {p : PropE} : own o k = some p ↔ p ∈ o ∧ p.key = k :=
  find?_key_eq_some_iff hwf

/-- the keys of the own properties that pass a test -/
theorem mem_filter_keys {o : O} (hwf : WF o) (f : PropE → Bool) (k : String) :
    k ∈ (o.filter f).map (·.key) ↔ ∃ p, own o k = some p ∧ f p = true := by
  simp only [List.mem_map, List.mem_filter, own_eq_some_iff hwf]
  exact ⟨fun ⟨p, ⟨h1, h2⟩, h3⟩ => ⟨p, ⟨h1, h3⟩, h2⟩, fun ⟨p, ⟨h1, h3⟩, h2⟩ => ⟨p, ⟨h1, h2⟩, h3⟩⟩

/-- **for-in reports exactly the visible enumerable keys**: `k` is enumerated iff it was not seen
    before and the nearest object that has `k` has it enumerable (a nearer non-enumerable property
    hides an inherited enumerable one) -/
theorem forIn_mem_iff : ∀ (chain : List O) (seen : List String) (k : String), (∀ o ∈ chain, WF o) →
    (k ∈ forIn chain seen ↔ k ∉ seen ∧ nearestEnum chain k = true)
  | [], seen, k, _ => by simp [forIn, nearestEnum]
  | o :: rest, seen, k, hwf => by
    have ih := forIn_mem_iff rest (seen ++ (o.filter (fun p => !seen.contains p.key)).map (·.key)) k
      (fun o' ho' => hwf o' (List.mem_cons_of_mem _ ho'))
    have ho := hwf o List.mem_cons_self
    simp only [forIn, List.mem_append, List.filter_filter, mem_filter_keys ho, ih, nearestEnum]
    cases h : own o k with
    | none => simp
    | some p =>
      have hk : p.key = k := ((own_eq_some_iff ho).mp h).2
      simp [hk, and_comm]

theorem forInKeys_mem_iff (chain : List O) (k : String) (hwf : ∀ o ∈ chain, WF o) :
    k ∈ forInKeys chain ↔ nearestEnum chain k = true := by
  simpa [forInKeys] using forIn_mem_iff chain [] k hwf

theorem has_of_nearestEnum : ∀ (chain : List O) (k : String), nearestEnum chain k = true → has chain k = true
  | [], _, h => nomatch h
  | o :: rest, k, h => by
    rw [nearestEnum] at h
    rw [has, List.any_cons]
    cases ho : own o k with
    | some p => rfl
    | none =>
      rw [ho] at h
      exact has_of_nearestEnum rest k h

/-- every enumerated key is a property of the receiver -/
theorem forInKeys_has (chain : List O) (k : String) (hwf : ∀ o ∈ chain, WF o) (h : k ∈ forInKeys chain) :
    has chain k = true :=
  has_of_nearestEnum chain k ((forInKeys_mem_iff chain k hwf).mp h)

/-- **no key is enumerated twice** -/
theorem forIn_nodup : ∀ (chain : List O) (seen : List String), (∀ o ∈ chain, WF o) → (forIn chain seen).Nodup
  | [], _, _ => by simp [forIn]
  | o :: rest, seen, hwf => by
    have hw : ∀ o' ∈ rest, WF o' := fun o' ho' => hwf o' (List.mem_cons_of_mem _ ho')
    simp only [forIn]
    -- the own part is a sublist of the distinct own keys, and all of it is `seen` further up
    refine List.nodup_append.mpr ⟨((List.filter_sublist.trans List.filter_sublist).map _).nodup
      (hwf o List.mem_cons_self), forIn_nodup rest _ hw, fun a ha b hb hab => ?_⟩
    subst hab
    exact ((forIn_mem_iff rest _ a hw).mp hb).1 (List.mem_append_right _ ((List.filter_sublist.map _).subset ha))

/-- own enumerable keys come first, in own-key order -/
theorem forInKeys_own_first (o : O) (rest : List O) :
    ∃ tail, forInKeys (o :: rest) = (o.filter (·.enumerable)).map (·.key) ++ tail := by
  refine ⟨forIn rest ([] ++ (o.filter (fun p => !([] : List String).contains p.key)).map (·.key)), ?_⟩
  simp [forInKeys, forIn]

/-- **a call through any number of `bind` layers passes all bound arguments, innermost layer first,
    then the call's own arguments, to the innermost target** -/
theorem resolveCall_spec : ∀ (f : Fn) (this : Option Int) (args : List Int),
    (resolveCall f this args).1 = instanceTarget f ∧ (resolveCall f this args).2.2 = boundArgs f ++ args
  | .target id, this, args => by simp [resolveCall, instanceTarget, boundArgs]
  | .bound f t bargs, this, args => by
    have ih := resolveCall_spec f t (bargs ++ args)
    simp only [resolveCall, instanceTarget, boundArgs, List.append_assoc]
    exact ih

theorem resolveNew_spec : ∀ (f : Fn) (args : List Int),
    (resolveNew f args).1 = instanceTarget f ∧ (resolveNew f args).2 = boundArgs f ++ args
  | .target id, args => by simp [resolveNew, instanceTarget, boundArgs]
  | .bound f t bargs, args => by
    have ih := resolveNew_spec f (bargs ++ args)
    simp only [resolveNew, instanceTarget, boundArgs, List.append_assoc]
    exact ih

/-- `new` and a call agree on target and arguments (they differ in `this` only) -/
theorem new_call_agree (f : Fn) (this : Option Int) (args : List Int) :
    (resolveNew f args).1 = (resolveCall f this args).1 ∧ (resolveNew f args).2 = (resolveCall f this args).2.2 := by
  obtain ⟨a1, a2⟩ := resolveCall_spec f this args
  obtain ⟨b1, b2⟩ := resolveNew_spec f args
  exact ⟨b1.trans a1.symm, b2.trans a2.symm⟩

/-- binding twice is binding once with the concatenated arguments; the second `this` is ignored -/
theorem bind_compose (f : Fn) (t1 t2 : Option Int) (a1 a2 : List Int) (this : Option Int) (args : List Int) :
    resolveCall (.bound (.bound f t1 a1) t2 a2) this args = resolveCall (.bound f t1 (a1 ++ a2)) this args := by
  simp [resolveCall, List.append_assoc]

/-- the `this` of a bound function is fixed by the innermost `bind`, whatever the caller passes -/
theorem bound_this_fixed (f : Fn) (t : Option Int) (a : List Int) (this this' : Option Int) (args : List Int) :
    resolveCall (.bound f t a) this args = resolveCall (.bound f t a) this' args :=
  rfl

-- non-vacuity
example : forInKeys [[⟨"b", 2, true⟩, ⟨"z", 9, true⟩, ⟨"hid", 1, false⟩], [⟨"a", 1, true⟩, ⟨"z", 0, true⟩, ⟨"hid", 5, true⟩]] = ["b", "z", "a"] := by decide
example : lookup [[⟨"b", 2, true⟩], [], [⟨"a", 1, true⟩, ⟨"b", 7, true⟩]] "b" = some 2 ∧ lookup [[⟨"b", 2, true⟩], [], [⟨"a", 1, true⟩]] "a" = some 1 := by decide
example : resolveCall (.bound (.bound (.target 7) (some 1) [10]) (some 2) [20, 30]) none [40] = (7, some 1, [10, 20, 30, 40]) := by decide
example : WF [⟨"b", 2, true⟩, ⟨"z", 9, true⟩] := by unfold WF; decide

end TsrunVerif.Obj
