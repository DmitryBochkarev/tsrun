import TsrunVerif.Model.Lib

/-!
# C01 (built-in library, index arithmetic) — property theorems over M-Lib

"all argument values incl. NaN, -0, negative/fractional/out-of-range indices": every theorem below
quantifies over every list (any length) and, where its argument is an `Arg`, over every argument (absent,
NaN, ±∞, every integer, every non-integral number); some are stated for particular spellings of the argument
alone, mostly the integers `.int k` (`slice_last`, `slice_far`, `at_nonneg`, `at_neg`, `splice_insert`,
`with_isSome_iff`, `indexOf_from_beyond`, `substring_neg`, `padding_length`, `padStart_length`, `repeat_spec`).
M-Lib is compared with tsrun on every list up to a length and the whole boundary argument set by the C01
correspondence.

`slice`, `splice`, `fill`, `copyWithin` and `substring` cut a *segment* `(l.drop a).take n` out of the list or put
a list in its place (`l.take a ++ m ++ l.drop (a + n)`); the list facts about that come first, and these entry
points then only supply `n ≤ len - a` and `a + n ≤ len` from the clamps.
-/
namespace TsrunVerif.Lib

theorem segment_partition {α : Type} (l : List α) (a n : Nat) :
    l = l.take a ++ (l.drop a).take n ++ l.drop (a + n) := by
  rw [List.append_assoc, ← List.drop_drop, List.take_append_drop, List.take_append_drop]

theorem length_segment_le {α : Type} (l : List α) (a n : Nat) : ((l.drop a).take n).length ≤ l.length := by
  rw [List.length_take, List.length_drop]
  exact Nat.le_trans (Nat.min_le_right _ _) (Nat.sub_le _ _)

theorem length_segment {α : Type} (l : List α) (a n : Nat) (h : n ≤ l.length - a) : ((l.drop a).take n).length = n := by
  rw [List.length_take, List.length_drop]; exact Nat.min_eq_left h

theorem length_overwrite {α : Type} (l m : List α) (a b : Nat) (h : a + m.length = b) (hb : b ≤ l.length) :
    (l.take a ++ m ++ l.drop b).length = l.length := by
  rw [List.length_append, List.length_append, List.length_take_of_le (Nat.le_trans (Nat.le_add_right _ _) (h ▸ hb)),
    List.length_drop, h, Nat.add_sub_cancel' hb]

theorem add_sub_eq_max (a b : Nat) : a + (b - a) = max a b := by
  rw [Nat.add_comm, Nat.sub_add_eq_max, Nat.max_comm]

/-! ### the two clamps stay inside the list -/

theorem relIndex_le (len : Nat) (n : IntInf) : relIndex len n ≤ len := by
  cases n with
  | ninf => exact Nat.zero_le _
  | pinf => exact Nat.le_refl _
  | fin k =>
    simp only [relIndex]
    split
    · omega
    · exact Nat.min_le_right _ _

theorem clampIndex_le (len : Nat) : ∀ n : IntInf, clampIndex len n ≤ len
  | .ninf => Nat.zero_le _
  | .pinf => Nat.le_refl _
  | .fin _ => Nat.min_le_right _ _

theorem clampIndex_of_nonpos (len : Nat) (k : Int) (h : k ≤ 0) : clampIndex len (.fin k) = 0 := by
  rw [clampIndex, Int.toNat_of_nonpos h, Nat.zero_min]

theorem relStart_le (len : Nat) (a : Arg) : relStart len a ≤ len := relIndex_le _ _

theorem relEnd_le (len : Nat) (a : Arg) : relEnd len a ≤ len := by
  cases a <;> simp [relEnd, relIndex_le]

theorem deleteCount_le (len s : Nat) (g : Bool) (dc : Option Arg) : deleteCount len s g dc ≤ len - s := by
  unfold deleteCount
  split
  · omega
  · split
    · omega
    · exact clampIndex_le _ _

/-- negative indices count from the end; too negative ones stop at 0 -/
theorem relIndex_neg (len k : Nat) : relIndex len (.fin (-(k : Int) - 1)) = len - (k + 1) := by
  rw [relIndex, if_pos (by omega)]
  omega

/-- non-negative indices are themselves, capped at the length -/
theorem relIndex_nonneg (len k : Nat) : relIndex len (.fin (k : Int)) = min k len := by
  simp only [relIndex]
  split
  · omega
  · simp

/-- non-integral arguments truncate towards zero; NaN and `undefined` are 0 -/
theorem toIntOrInf_half_nonneg (i : Nat) : toIntOrInf (.half (i : Int)) = .fin i := by
  simp [toIntOrInf]; omega
theorem toIntOrInf_half_neg (i : Nat) : toIntOrInf (.half (-(i : Int) - 1)) = .fin (-(i : Int)) := by
  simp [toIntOrInf]; omega
theorem toIntOrInf_nan : toIntOrInf .nan = .fin 0 ∧ toIntOrInf .undef = .fin 0 := ⟨rfl, rfl⟩

/-- `slice` returns a contiguous part of the list: prefix ++ slice ++ suffix = list, with the prefix as
    long as the relative start -/
theorem slice_contiguous {α : Type} (l : List α) (s e : Arg) :
    ∃ pre post, l = pre ++ slice l s e ++ post ∧ pre.length = relStart l.length s :=
  ⟨_, _, segment_partition l _ _, List.length_take_of_le (relStart_le _ s)⟩

theorem slice_length {α : Type} (l : List α) (s e : Arg) :
    (slice l s e).length = relEnd l.length e - relStart l.length s :=
  length_segment l _ _ (Nat.sub_le_sub_right (relEnd_le _ e) _)

theorem slice_length_le {α : Type} (l : List α) (s e : Arg) : (slice l s e).length ≤ l.length :=
  length_segment_le l _ _

/-- no arguments: a copy of the whole list -/
theorem slice_all {α : Type} (l : List α) : slice l .undef .undef = l := by
  simp [slice, relStart, relEnd, toIntOrInf, relIndex]

/-- `slice(-k)`: the last `k` elements (all of them when `k` exceeds the length) -/
theorem slice_last {α : Type} (l : List α) (k : Nat) :
    slice l (.int (-(k : Int) - 1)) .undef = l.drop (l.length - (k + 1)) := by
  simp only [slice, relStart, relEnd, toIntOrInf, relIndex_neg]
  rw [List.take_of_length_le]
  simp [List.length_drop]

/-- an end before the start gives the empty list (never a reversed or wrapped one) -/
theorem slice_empty_of_end_le_start {α : Type} (l : List α) (s e : Arg)
    (h : relEnd l.length e ≤ relStart l.length s) : slice l s e = [] := by
  rw [slice, Nat.sub_eq_zero_of_le h, List.take_zero]

/-- slicing is insensitive to how far out of range an index is -/
theorem slice_far {α : Type} (l : List α) (s : Arg) (k : Nat) (h : l.length ≤ k) :
    slice l s (.int k) = slice l s .pinf ∧ slice l s .pinf = slice l s .undef := by
  have h1 : relEnd l.length (.int k) = l.length := (relIndex_nonneg _ _).trans (Nat.min_eq_right h)
  exact ⟨by rw [slice, h1]; rfl, rfl⟩

theorem at_nonneg {α : Type} (l : List α) (k : Nat) : at_ l (.int k) = l[k]? := by
  simp only [at_, toIntOrInf]
  rw [if_neg (Int.not_lt.mpr (Int.natCast_nonneg k)), Int.toNat_natCast]

/-- `at(-(k+1))` is the element `k` places before the end -/
theorem at_neg {α : Type} (l : List α) (k : Nat) :
    at_ l (.int (-(k : Int) - 1)) = if k < l.length then l[l.length - 1 - k]? else none := by
  simp only [at_, toIntOrInf]
  rw [if_pos (by omega)]
  by_cases hk : k < l.length
  · rw [if_pos hk, if_neg (by omega)]
    congr 1; omega
  · rw [if_neg hk, if_pos (by omega)]

theorem at_infinite {α : Type} (l : List α) : at_ l .pinf = none ∧ at_ l .ninf = none := ⟨rfl, rfl⟩

/-- nothing is lost and nothing invented: the removed elements are exactly the gap between the part
    kept in front and the part kept behind, and the new array is front ++ items ++ behind -/
theorem splice_partition {α : Type} (l : List α) (start dc : Option Arg) (items : List α) :
    ∃ front behind, l = front ++ (splice l start dc items).1 ++ behind ∧
      (splice l start dc items).2 = front ++ items ++ behind :=
  ⟨_, _, segment_partition l _ _, rfl⟩

theorem splice_lengths {α : Type} (l : List α) (start dc : Option Arg) (items : List α) :
    (splice l start dc items).2.length + (splice l start dc items).1.length = l.length + items.length := by
  obtain ⟨front, behind, h1, h2⟩ := splice_partition l start dc items
  have := congrArg List.length h1
  simp only [h2, List.length_append] at this ⊢
  omega

/-- `splice()` without arguments removes nothing; `splice(start)` removes everything from `start` -/
theorem splice_noargs {α : Type} (l : List α) : splice l none none ([] : List α) = ([], l) := by
  simp [splice, deleteCount, spliceStart]
theorem splice_start_only {α : Type} (l : List α) (a : Arg) :
    splice l (some a) none ([] : List α) = (l.drop (relStart l.length a), l.take (relStart l.length a)) := by
  simp only [splice, spliceStart, deleteCount, Option.isSome_some, Bool.not_true, Bool.false_eq_true, if_false]
  rw [Nat.add_sub_cancel' (relStart_le l.length a), List.drop_length, List.append_nil, List.append_nil,
    List.take_of_length_le (Nat.le_of_eq List.length_drop)]

/-- a NaN / negative / `-∞` delete count deletes nothing: pure insertion -/
theorem splice_insert {α : Type} (l : List α) (a : Arg) (items : List α) (dc : Arg)
    (h : dc = .nan ∨ dc = .ninf ∨ dc = .int 0 ∨ ∃ k : Nat, dc = .int (-(k : Int))) :
    splice l (some a) (some dc) items =
      ([], l.take (relStart l.length a) ++ items ++ l.drop (relStart l.length a)) := by
  have hz : deleteCount l.length (relStart l.length a) true (some dc) = 0 := by
    show clampIndex _ (toIntOrInf dc) = 0
    rcases h with h | h | h | ⟨k, h⟩ <;> subst h
    · exact clampIndex_of_nonpos _ 0 (Int.le_refl 0)
    · rfl
    · exact clampIndex_of_nonpos _ 0 (Int.le_refl 0)
    · exact clampIndex_of_nonpos _ (-(k : Int)) (by omega)
  simp [splice, spliceStart, hz]

theorem fill_length {α : Type} (l : List α) (v : α) (s e : Arg) : (fill l v s e).length = l.length := by
  have h1 := relStart_le l.length s
  have h2 := relEnd_le l.length e
  exact length_overwrite l _ _ _ (by rw [List.length_replicate, add_sub_eq_max]) (Nat.max_le.mpr ⟨h1, h2⟩)

theorem fill_getElem? {α : Type} (l : List α) (v : α) (s e : Arg) (i : Nat) :
    (fill l v s e)[i]? = if relStart l.length s ≤ i ∧ i < relEnd l.length e then some v else l[i]? := by
  have hk := List.length_take_of_le (relStart_le l.length s)
  simp only [fill]
  generalize relStart l.length s = k at *
  generalize relEnd l.length e = f
  -- the first two pieces together end where the third begins
  have hkf : (l.take k ++ List.replicate (f - k) v).length = max k f := by
    rw [List.length_append, hk, List.length_replicate, add_sub_eq_max]
  by_cases hlt : i < k
  · rw [if_neg (fun h => Nat.not_le_of_lt hlt h.1), List.append_assoc, List.getElem?_append_left (hk.symm ▸ hlt),
      List.getElem?_take_of_lt hlt]
  · have hki : k ≤ i := Nat.le_of_not_lt hlt
    by_cases hin : i < f
    · rw [if_pos ⟨hki, hin⟩, List.getElem?_append_left (hkf ▸ Nat.lt_of_lt_of_le hin (Nat.le_max_right k f)),
        List.getElem?_append_right (hk.symm ▸ hki), List.getElem?_replicate, hk, if_pos (Nat.sub_lt_sub_right hki hin)]
    · have hmax : max k f ≤ i := Nat.max_le.mpr ⟨hki, Nat.le_of_not_lt hin⟩
      rw [if_neg (fun h => hin h.2), List.getElem?_append_right (hkf ▸ hmax), List.getElem?_drop, hkf,
        Nat.add_sub_cancel' hmax]

/-- `fill` writes `v` exactly on `[start, end)` and leaves every other element alone -/
theorem fill_get {α : Type} (l : List α) (v : α) (s e : Arg) (i : Nat) (hi : i < l.length) :
    (fill l v s e)[i]? = if relStart l.length s ≤ i ∧ i < relEnd l.length e then some v else l[i]? :=
  fill_getElem? l v s e i

theorem copyWithin_length {α : Type} (l : List α) (t s e : Arg) : (copyWithin l t s e).length = l.length := by
  have hto := relStart_le l.length t
  have hfin := relEnd_le l.length e
  simp only [copyWithin]
  generalize relStart l.length t = to, relStart l.length s = from_, relEnd l.length e = fin at *
  -- that many elements are there to be copied, and fit behind `to`
  have hcount : min (fin - from_) (l.length - to) ≤ l.length - from_ :=
    Nat.le_trans (Nat.min_le_left _ _) (Nat.sub_le_sub_right hfin _)
  have hfit : to + min (fin - from_) (l.length - to) ≤ l.length :=
    Nat.add_le_of_le_sub' hto (Nat.min_le_right _ _)
  exact length_overwrite l _ _ _ (congrArg (to + ·) (length_segment l _ _ hcount)) hfit

/-- `with` succeeds exactly for indices `−len ≤ i < len`, and then changes one element -/
theorem with_isSome_iff {α : Type} (l : List α) (k : Int) (v : α) :
    (with_ l (.int k) v).isSome = true ↔ (-(l.length : Int) ≤ k ∧ k < l.length) := by
  simp only [with_, toIntOrInf]
  have ha : actualIndex l.length k = if k < 0 then (l.length : Int) + k else k := rfl
  generalize actualIndex l.length k = a at *
  by_cases hc : a < 0 ∨ a ≥ l.length
  · simp only [if_pos hc, Option.isSome_none, Bool.false_eq_true, false_iff]
    omega
  · simp only [if_neg hc, Option.isSome_some, true_iff]
    omega

theorem with_length {α : Type} (l l' : List α) (i : Arg) (v : α) (h : with_ l i v = some l') : l'.length = l.length := by
  unfold with_ at h
  split at h
  · split at h
    · cases h
    · cases h
      exact List.length_set
  · cases h

/-- `findFrom` returns the least index `≥ from` that satisfies the predicate -/
theorem findFrom_spec {α : Type} (p : α → Bool) : ∀ (l : List α) (i from_ r : Nat), findFrom p l i from_ = some r →
    from_ ≤ r ∧ i ≤ r ∧ (∃ x, l[r - i]? = some x ∧ p x = true) ∧
      ∀ j, i ≤ j → j < r → from_ ≤ j → ∀ y, l[j - i]? = some y → p y = false
  | [], i, from_, r, h => by simp [findFrom] at h
  | x :: xs, i, from_, r, h => by
    rw [findFrom] at h
    by_cases hc : (i ≥ from_ && p x) = true
    · rw [if_pos hc] at h
      cases h
      have hc' : from_ ≤ i ∧ p x = true := by simpa using hc
      exact ⟨hc'.1, Nat.le_refl _, ⟨x, by rw [Nat.sub_self, List.getElem?_cons_zero], hc'.2⟩,
        fun j h1 h2 => absurd h1 (Nat.not_le_of_lt h2)⟩
    · rw [if_neg hc] at h
      obtain ⟨a1, a2, ⟨y, a3, a4⟩, a5⟩ := findFrom_spec p xs (i + 1) from_ r h
      refine ⟨a1, Nat.le_of_succ_le a2, ⟨y, ?_, a4⟩, fun j h1 h2 h3 z hz => ?_⟩
      · rw [List.getElem?_cons, if_neg (Nat.sub_ne_zero_of_lt a2)]
        exact a3
      · rcases Nat.eq_or_lt_of_le h1 with rfl | hlt
        · -- `j = i`: the element is `x`, which was not taken
          rw [Nat.sub_self, List.getElem?_cons_zero] at hz
          cases hz
          simpa [h3] using hc
        · rw [List.getElem?_cons, if_neg (Nat.sub_ne_zero_of_lt hlt)] at hz
          exact a5 j hlt h2 h3 z hz

/-- `indexOf` finds the FIRST matching index at or after the (relative, clamped) `fromIndex` -/
theorem indexOf_first {α : Type} (eq : α → α → Bool) (l : List α) (x : α) (from_ : Arg) (r : Nat)
    (h : indexOf eq l x from_ = some r) :
    (∃ y, l[r]? = some y ∧ eq x y = true) ∧ relIndex l.length (toIntOrInf from_) ≤ r ∧
      ∀ j, relIndex l.length (toIntOrInf from_) ≤ j → j < r → ∀ y, l[j]? = some y → eq x y = false := by
  simp only [indexOf] at h
  split at h
  · cases h
  · obtain ⟨a1, _, a3, a5⟩ := findFrom_spec (eq x) l 0 _ r h
    exact ⟨a3, a1, fun j h1 h2 y hy => a5 j (Nat.zero_le _) h2 h1 y hy⟩

/-- nothing is found when the search is to start behind the last index -/
theorem findFrom_eq_none {α : Type} (p : α → Bool) : ∀ (l : List α) (i from_ : Nat), i + l.length ≤ from_ →
    findFrom p l i from_ = none
  | [], _, _, _ => rfl
  | y :: ys, i, from_, h => by
    rw [List.length_cons] at h
    have hi : ¬ i ≥ from_ := by omega
    simp only [findFrom, hi, decide_false, Bool.false_and, Bool.false_eq_true, if_false]
    exact findFrom_eq_none p ys (i + 1) from_ (by omega)

/-- a `fromIndex` at or beyond the length (also `+∞`) never finds anything -/
theorem indexOf_from_beyond {α : Type} (eq : α → α → Bool) (l : List α) (x : α) (k : Nat) (h : l.length ≤ k) :
    indexOf eq l x (.int k) = none ∧ indexOf eq l x .pinf = none := by
  refine ⟨?_, rfl⟩
  simp only [indexOf, toIntOrInf, relIndex_nonneg, Nat.min_eq_right h]
  exact findFrom_eq_none _ l 0 _ (by omega)

/-- with an end argument given, `substring` is symmetric in the two clamped arguments -/
theorem substring_of_ne_undef (s : List Char) (a b : Arg) (hb : b ≠ .undef) :
    substring s a b =
      let i := clampIndex s.length (toIntOrInf a)
      let j := clampIndex s.length (toIntOrInf b)
      (s.drop (min i j)).take (max i j - min i j) := by
  cases b with
  | undef => exact absurd rfl hb
  | _ => rfl

/-- `substring` orders its (clamped) arguments: swapping them changes nothing -/
theorem substring_swap (s : List Char) (a b : Arg) (ha : a ≠ .undef) (hb : b ≠ .undef) :
    substring s a b = substring s b a := by
  rw [substring_of_ne_undef s a b hb, substring_of_ne_undef s b a ha]
  dsimp only
  rw [Nat.min_comm, Nat.max_comm]

theorem substring_length_le (s : List Char) (a b : Arg) : (substring s a b).length ≤ s.length :=
  length_segment_le s _ _

/-- negative and NaN arguments of `substring` are 0 (no counting from the end, unlike `slice`) -/
theorem substring_neg (s : List Char) (k : Nat) (b : Arg) :
    substring s (.int (-(k : Int))) b = substring s (.int 0) b ∧ substring s .nan b = substring s (.int 0) b := by
  refine ⟨?_, rfl⟩
  simp only [substring, toIntOrInf]
  rw [clampIndex_of_nonpos _ _ (by omega), clampIndex_of_nonpos _ _ (Int.le_refl 0)]

theorem padding_length (len : Nat) (k : Nat) (f : List Char) (hf : f ≠ []) :
    (padding len (.int k) f).length = k - len := by
  simp only [padding, toIntOrInf, Int.toNat_natCast]
  by_cases h : k ≤ len
  · rw [if_pos (Or.inl h), List.length_nil, Nat.sub_eq_zero_of_le h]
  · rw [if_neg (fun c => c.elim h hf)]
    simp only [List.length_take, List.length_flatten, List.map_replicate, List.sum_replicate_nat]
    -- `need / |f| + 1` copies of the filler are enough
    have := Nat.lt_div_mul_add (a := k - len) (List.length_pos_iff.mpr hf)
    rw [← Nat.succ_mul] at this
    exact Nat.min_eq_left (Nat.le_of_lt this)

/-- `padStart` / `padEnd` reach exactly the requested length (or keep the string when it is long enough) -/
theorem padStart_length (s : List Char) (k : Nat) (f : List Char) (hf : f ≠ []) :
    (padStart s (.int k) f).length = max s.length k ∧ (padEnd s (.int k) f).length = max s.length k := by
  simp only [padStart, padEnd, List.length_append, padding_length s.length k f hf]
  rw [Nat.add_comm, add_sub_eq_max]
  exact ⟨rfl, rfl⟩

theorem repeat_spec (s : List Char) (k : Nat) :
    repeat_ s (.int k) = some ((List.replicate k s).flatten) ∧ repeat_ s (.int (-(k : Int) - 1)) = none ∧
      repeat_ s .pinf = none := by
  refine ⟨by simp [repeat_, toIntOrInf], ?_, rfl⟩
  simp only [repeat_, toIntOrInf]
  rw [if_pos (by omega)]

-- non-vacuity: the familiar instances
example : slice [1, 2, 3, 4, 5] (.int (-2)) .undef = [4, 5] := by decide
example : slice [1, 2, 3, 4, 5] (.half 1) (.int (-1)) = [2, 3, 4] := by decide
example : slice [1, 2, 3] .nan (.int 2) = [1, 2] ∧ slice [1, 2, 3] (.int 2) (.int 1) = [] := by decide
example : splice [1, 2, 3, 4] (some (.int 1)) (some (.int 2)) [9] = ([2, 3], [1, 9, 4]) := by decide
example : splice [1, 2, 3, 4] (some (.int (-1))) none [] = ([4], [1, 2, 3]) := by decide
example : at_ [1, 2, 3] (.int (-1)) = some 3 ∧ at_ [1, 2, 3] (.int 3) = none ∧ at_ [1, 2, 3] (.half (-1)) = some 1 := by decide
example : fill [1, 2, 3, 4] 0 (.int 1) (.int (-1)) = [1, 0, 0, 4] := by decide
example : copyWithin [1, 2, 3, 4, 5] (.int 0) (.int 3) .undef = [4, 5, 3, 4, 5] := by decide
example : substring "hello".toList (.int 4) (.int 1) = "ell".toList := by decide
example : padStart "5".toList (.int 3) "ab".toList = "ab5".toList := by decide

end TsrunVerif.Lib
