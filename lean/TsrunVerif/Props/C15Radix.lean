import TsrunVerif.Model.RadixLit

/-!
# C15 (radix literals) — `0x…`, `0o…`, `0b…` of ANY length are read as the correctly rounded double

`radix_literal_value` keeps 120 leading bits, an exponent and one sticky bit.  Theorems: the scan loses
nothing that matters (`scan_inv`), rounding the kept mantissa with the sticky bit at the mantissa's
own rounding position and scaling is rounding the whole integer at its rounding position
(`literal_correct`), for every digit list of every length.
-/
namespace TsrunVerif.RadixLit

/-- `m | 1` is `m` with bit 0 set -/
theorem or_one_bits (m : Nat) : (m ||| 1) / 2 = m / 2 ∧ (m ||| 1) % 2 = 1 :=
  ⟨Nat.or_div_two.trans (Nat.or_zero _), Nat.or_mod_two_eq_one.mpr (Or.inr rfl)⟩

theorem or_one (m : Nat) : m ||| 1 = if m % 2 = 0 then m + 1 else m := by
  have := or_one_bits m
  split <;> omega

/-! ### arithmetic of `n = m · 2^D + L` with `L < 2^D` -/

theorem lt_iff (A H P L : Nat) (hL : L < P) : A * P + L < H * P ↔ A < H := by
  have hP : 0 < P := Nat.zero_lt_of_lt hL
  rw [← Nat.div_lt_iff_lt_mul hP, Nat.mul_comm, Nat.mul_add_div hP, Nat.div_eq_of_lt hL, Nat.add_zero]

theorem gt_iff (A H P L : Nat) (hL : L < P) : H * P < A * P + L ↔ H < A ∨ (H = A ∧ 0 < L) := by
  have h1 := lt_iff A H P L hL
  have h2 := lt_iff H A P 0 (by omega)
  rcases Nat.lt_trichotomy H A with h | rfl | h <;> omega

theorem div_split (m D j L : Nat) (hL : L < 2 ^ D) : (m * 2 ^ D + L) / 2 ^ (D + j) = m / 2 ^ j := by
  rw [Nat.pow_add, ← Nat.div_div_eq_div_mul, Nat.mul_comm m, Nat.mul_add_div (Nat.two_pow_pos D),
    Nat.div_eq_of_lt hL, Nat.add_zero]

theorem mod_split (m D j L : Nat) (hL : L < 2 ^ D) :
    (m * 2 ^ D + L) % 2 ^ (D + j) = (m % 2 ^ j) * 2 ^ D + L := by
  rw [Nat.pow_add, Nat.mod_mul, Nat.mul_add_mod_of_lt hL, Nat.mul_comm m, Nat.mul_add_div (Nat.two_pow_pos D),
    Nat.div_eq_of_lt hL, Nat.add_zero, Nat.add_comm, Nat.mul_comm]

/-- rounding at position `D + j` only looks at `m / 2^j`, at how `m % 2^j` compares with `2^(j-1)`, and
    at whether `L` is zero -/
theorem rneAt_split (m D j L : Nat) (hL : L < 2 ^ D) (hj : 1 ≤ j) :
    rneAt (D + j) (m * 2 ^ D + L) =
      (if m % 2 ^ j < 2 ^ (j - 1) then m / 2 ^ j
       else if 2 ^ (j - 1) < m % 2 ^ j ∨ (2 ^ (j - 1) = m % 2 ^ j ∧ 0 < L) then m / 2 ^ j + 1
       else if m / 2 ^ j % 2 = 0 then m / 2 ^ j else m / 2 ^ j + 1) * 2 ^ (D + j) := by
  -- the remainder `(m % 2^j) · 2^D + L` is compared with half of `2^(D+j)`, which is `2^(j-1) · 2^D`
  have hpow : (2 : Nat) ^ (D + j) = 2 * (2 ^ (j - 1) * 2 ^ D) := by
    rw [← Nat.mul_assoc, ← Nat.pow_add_one', ← Nat.pow_add, Nat.sub_add_cancel hj, Nat.add_comm]
  simp only [apply_ite (· * 2 ^ (D + j)), rneAt, div_split m D j L hL, mod_split m D j L hL]
  simp only [hpow, Nat.mul_lt_mul_left (show 0 < 2 by decide), lt_iff _ _ _ L hL, gt_iff _ _ _ L hL]

/-- `x`, which is `A` with bit 0 set, lies on the same side of an even `H` as `A` followed by something non-zero
    (each `↔` relates a condition of `rneAt_split` at `L := 0`, hence `0 < 0`, to the same condition at `L`) -/
theorem sticky_cmp (A x H L : Nat) (hx : x / 2 = A / 2 ∧ x % 2 = 1) (hH : H % 2 = 0) (hL : 0 < L) :
    (x < H ↔ A < H) ∧ ((H < x ∨ (H = x ∧ 0 < 0)) ↔ (H < A ∨ (H = A ∧ 0 < L))) := by
  omega

/-- **the sticky bit suffices**: rounding `m · 2^D + L` (`0 < L < 2^D`) at any position at least two
    bits above `D` is rounding `(m | 1) · 2^D` -/
theorem rneAt_sticky (m D j L : Nat) (hL : L < 2 ^ D) (hL0 : 0 < L) (hj : 2 ≤ j) :
    rneAt (D + j) (m * 2 ^ D + L) = rneAt (D + j) ((m ||| 1) * 2 ^ D + 0) := by
  -- `m | 1` has the quotient of `m` by `2^j`, and the remainder of `m` with bit 0 set
  have hq : (m ||| 1) / 2 ^ j = m / 2 ^ j := by
    rw [Nat.or_div_two_pow, Nat.div_eq_of_lt (Nat.one_lt_two_pow (by omega)), Nat.or_zero]
  have hr : (m ||| 1) % 2 ^ j = m % 2 ^ j ||| 1 := by
    rw [Nat.or_mod_two_pow, Nat.one_mod_two_pow (by omega)]
  have hH : (2 : Nat) ^ (j - 1) % 2 = 0 := Nat.two_pow_mod_two_eq_zero.mpr (Nat.sub_pos_of_lt hj)
  obtain ⟨c1, c2⟩ := sticky_cmp _ _ _ L (or_one_bits (m % 2 ^ j)) hH hL0
  have hj1 : 1 ≤ j := Nat.le_of_succ_le hj
  rw [rneAt_split m D j L hL hj1, rneAt_split (m ||| 1) D j 0 (Nat.two_pow_pos D) hj1, hq, hr]
  simp only [c1, c2]

/-- scaling by a power of two commutes with rounding (the `+ 0` here and in `rneAt_sticky` is the `L` of
    `rneAt_split`, kept so that the three rewrite with one another) -/
theorem rneAt_scale (x D j : Nat) (hj : 1 ≤ j) : rneAt (D + j) (x * 2 ^ D + 0) = rneAt j x * 2 ^ D := by
  rw [rneAt_split x D j 0 (Nat.two_pow_pos D) hj]
  have h0 := rneAt_split x 0 j 0 (by simp) hj
  simp only [Nat.pow_zero, Nat.mul_one, Nat.add_zero, Nat.zero_add] at h0
  rw [h0, Nat.pow_add, Nat.mul_assoc, Nat.mul_comm (2 ^ j) (2 ^ D)]

/-- the digits read so far denote `v`: the mantissa, then the `dropped` bits `L`, of which the sticky flag says
    whether they are zero; the last conjunct (digits are dropped only once the mantissa is full) is what makes
    `L = 0` while the mantissa still grows -/
def Inv (a : Acc) (v : Nat) : Prop :=
  ∃ L, v = a.m * 2 ^ a.dropped + L ∧ L < 2 ^ a.dropped ∧ (a.sticky = true ↔ 0 < L) ∧ (0 < a.dropped → 2 ^ 120 ≤ a.m)

theorem inv_step (k : Nat) (a : Acc) (v d : Nat) (hd : d < 2 ^ k) (h : Inv a v) :
    Inv (stepDigit k a d) (v * 2 ^ k + d) := by
  obtain ⟨L, hv, hL, hs, hm⟩ := h
  unfold stepDigit
  by_cases hsmall : a.m / 2 ^ 120 = 0
  · -- nothing has been dropped yet, so `L = 0`
    rw [if_pos hsmall]
    have hd0 : a.dropped = 0 := Nat.eq_zero_of_not_pos fun h =>
      Nat.not_le_of_lt (Nat.lt_of_div_eq_zero (Nat.two_pow_pos 120) hsmall) (hm h)
    rw [hd0, Nat.pow_zero] at hL hv
    obtain rfl : L = 0 := Nat.lt_one_iff.mp hL
    exact ⟨0, by simp [hd0, hv], Nat.two_pow_pos _, hs, by simp [hd0]⟩
  · rw [if_neg hsmall]
    refine ⟨L * 2 ^ k + d, ?_, ?_, ?_, fun _ => Nat.le_of_not_lt fun h => hsmall (Nat.div_eq_of_lt h)⟩
    · show v * 2 ^ k + d = a.m * 2 ^ (a.dropped + k) + (L * 2 ^ k + d)
      rw [hv, Nat.pow_add, Nat.add_mul, Nat.mul_assoc, Nat.add_assoc]
    · show L * 2 ^ k + d < 2 ^ (a.dropped + k)
      rw [Nat.pow_add]
      exact (lt_iff L _ _ d hd).mpr hL
    · have : 0 < L * 2 ^ k ↔ 0 < L := Nat.mul_pos_iff_of_pos_right (Nat.two_pow_pos k)
      simp only [Bool.or_eq_true, bne_iff_ne, ne_eq, hs]
      rw [Nat.add_pos_iff_pos_or_pos, this, Nat.pos_iff_ne_zero (n := d)]

/-- **the scan loses nothing that matters**: the digits' integer is `mantissa · 2^dropped + L` with
    `L < 2^dropped`, the sticky flag says whether `L` is non-zero -/
theorem scan_inv (k : Nat) (ds : List Nat) (hd : ∀ d ∈ ds, d < 2 ^ k) : Inv (scan k ds) (value k ds) :=
  List.foldl_rel (r := Inv) ⟨0, by simp, by simp, by simp, by simp⟩ fun d hm a v h => inv_step k a v d (hd d hm) h

/-- **radix literals of any length are correctly rounded**: when `j` is the rounding position of the
    kept mantissa (`2^(52+j) ≤ mantissa < 2^(53+j)`, `j ≥ 2` - always so once digits were dropped,
    because then the mantissa has at least 121 bits), the lexer's result - the mantissa rounded at `j`,
    scaled by `2^dropped` - is the digits' integer rounded at `dropped + j`, which is that integer's own
    rounding position (`value_bracket`) -/
theorem literal_correct (k : Nat) (ds : List Nat) (hd : ∀ d ∈ ds, d < 2 ^ k) (j : Nat) (hj : 2 ≤ j) :
    literal k ds j = rneAt ((scan k ds).dropped + j) (value k ds) := by
  obtain ⟨L, hv, hL, hs, hm⟩ := scan_inv k ds hd
  unfold literal mant
  rw [hv]
  by_cases hst : (scan k ds).sticky = true
  · have hL0 := hs.mp hst
    simp only [hst, if_true]
    rw [rneAt_sticky _ _ j L hL hL0 hj, rneAt_scale _ _ j (Nat.le_of_succ_le hj)]
  · obtain rfl : L = 0 := Nat.eq_zero_of_not_pos fun h => hst (hs.mpr h)
    simp only [hst]
    rw [rneAt_scale _ _ j (Nat.le_of_succ_le hj)]
    rfl

theorem mant_odd (a : Acc) : a.m ≤ mant a ∧ mant a ≤ a.m + 1 ∧ (mant a = a.m ∨ mant a % 2 = 1) := by
  unfold mant
  split
  · have := or_one_bits a.m
    omega
  · exact ⟨Nat.le_refl _, Nat.le_succ _, .inl rfl⟩

/-- the rounding position of the whole integer is the mantissa's plus the dropped bits -/
theorem value_bracket (k : Nat) (ds : List Nat) (hd : ∀ d ∈ ds, d < 2 ^ k) (j : Nat) (hj : 1 ≤ j)
    (hlo : 2 ^ (52 + j) ≤ mant (scan k ds)) (hhi : mant (scan k ds) < 2 ^ (53 + j)) :
    2 ^ (52 + j + (scan k ds).dropped) ≤ value k ds ∧ value k ds < 2 ^ (53 + j + (scan k ds).dropped) := by
  obtain ⟨L, hv, hL, hs, hm⟩ := scan_inv k ds hd
  have hEven : (2 : Nat) ^ (52 + j) % 2 = 0 := Nat.two_pow_mod_two_eq_zero.mpr (Nat.add_pos_left (by decide) j)
  -- the bounds hold of `m` too: the lower one is even
  have hmb : 2 ^ (52 + j) ≤ (scan k ds).m ∧ (scan k ds).m + 1 ≤ 2 ^ (53 + j) := by
    have := mant_odd (scan k ds)
    omega
  have h1 := Nat.mul_le_mul_right (2 ^ (scan k ds).dropped) hmb.1
  have h2 := Nat.mul_le_mul_right (2 ^ (scan k ds).dropped) hmb.2
  rw [Nat.succ_mul] at h2
  rw [hv, Nat.pow_add _ (52 + j), Nat.pow_add _ (53 + j)]
  exact ⟨Nat.le_trans h1 (Nat.le_add_right _ _), Nat.lt_of_lt_of_le (Nat.add_lt_add_left hL _) h2⟩

-- non-vacuity / examples: 0x20000000000001 followed by 20 zeros and a 1 (35 hex digits): the tie is broken upwards
example : (scan 4 ([2] ++ List.replicate 12 0 ++ [1] ++ List.replicate 20 0 ++ [1])).dropped = 16 := by decide
example : (scan 4 ([2] ++ List.replicate 12 0 ++ [1] ++ List.replicate 20 0 ++ [1])).sticky = true := by decide
example : rneAt 2 5 = 4 ∧ rneAt 2 6 = 8 ∧ rneAt 2 7 = 8 ∧ rneAt 2 10 = 8 ∧ rneAt 2 14 = 16 := by decide

end TsrunVerif.RadixLit
