import TsrunVerif.Lemmas.CompileEq
import TsrunVerif.Lemmas.CompileStmt
import TsrunVerif.Lemmas.CompileNeed
import TsrunVerif.Lemmas.CompileRegs
import TsrunVerif.Props.C06Compile

/-!
# C01 (compiler and VM) — property theorems over M-Compile

For EVERY expression and statement of the modelled core (any size, any nesting, any loop count), any
value domain and operator semantics (`Sem`), any initial environment and register contents:

* the code the compiler emits (`compileE` / `compileS`, the line-by-line mirror of the Rust compiler
  with its register allocator and jump patching) is the structured code `codeE` / `codeS`;
* running that code on the register VM yields exactly what the reference semantics (`evalE` /
  `evalS`: ECMAScript's evaluation order) prescribes: the same value, the same environment after the
  same side effects, or the same thrown error after the same side effects;
* the temporaries of one construct never clobber a live register of an enclosing one.
-/

namespace TsrunVerif.Compile
open TsrunVerif.RegAlloc

section
variable {V Err : Type} (sem : Sem V Err)

/-- a halting instruction, or one that raises with no handler left, ends `run` -/
theorem run_of_steps {C : List Op} {s s' : St V} (h : StepsH sem C s s') (o : Out V Err)
    (ho : stepH sem C s' = o) (hn : ∀ t, o ≠ .next t) : ∃ k, run sem C k s = some o := by
  induction h with
  | refl s =>
    refine ⟨1, ?_⟩
    simp only [run]
    rw [ho]
    cases o with
    | next t => exact absurd rfl (hn t)
    | halt _ => rfl
    | throw _ _ => rfl
    | fault => rfl
  | cons hs _ ih =>
    obtain ⟨k, hk⟩ := ih ho
    exact ⟨k + 1, by simp only [run]; rw [hs]; exact hk⟩

/-- **the compiler emits the structured code** (statement level, from a fresh builder) -/
theorem compileProgram_eq (s : Stmt) :
    compileProgram s = (codeS s 0 0).map (· ++ [.halt]) := by
  have h : Agree _ (codeS s 0 0) _ := compileS_eq s ⟨[], RA.init⟩ rfl
  unfold compileProgram
  rcases h with ⟨h1, h2⟩ | ⟨b', body, h1, h2, c1, _⟩
  · rw [h1, h2]
    rfl
  · rw [h1, h2]
    exact congrArg (fun c => some (c ++ [Op.halt])) c1

/-- **expressions, on the compiler as written**: whatever was compiled before (`b`) and whatever is
    appended afterwards (`post`), the code `compileE e dst` added computes the value of `e` into `dst`,
    performs exactly `e`'s side effects, and leaves every other allocated register alone; if `e`
    throws, the VM throws the same error after the same side effects -/
theorem compileE_correct (e : Expr) (dst : Reg) (b b' : B) (hc : compileE e dst b = some b')
    (hf : b.ra.free = []) (hd : dst < b.ra.next) (post : List Op) :
    ExprOK sem (b'.code ++ post) b.code.length (b'.code.length - b.code.length) e dst b.ra.next := by
  obtain ⟨body, h2, c1, _⟩ := (hc ▸ compileE_eq e dst b hf).of_some
  rw [c1, List.length_append, Nat.add_sub_cancel_left]
  exact codeE_ok sem e dst b.ra.next b.code.length body h2 hd (b.code ++ body ++ post) (Embeds.self b.code body post)

/-- **the allocator is a stack**: a compiled expression gives back every register it took -/
theorem compileE_restores (e : Expr) (dst : Reg) (b b' : B) (hc : compileE e dst b = some b')
    (hf : b.ra.free = []) :
    b'.ra.next = b.ra.next ∧ b'.ra.free = [] ∧ b'.ra.saved = b.ra.saved ∧ b.ra.maxUsed ≤ b'.ra.maxUsed := by
  obtain ⟨_, _, hr⟩ := (hc ▸ compileE_eq e dst b hf).of_some
  exact hr.2

/-- **a program that completes**: if the reference semantics finishes statement `s` (within any
    fuel) with environment `env'`, the compiled program halts with environment `env'` and an empty
    try stack -/
theorem program_completes (s : Stmt) (code : List Op) (hc : compileProgram s = some code)
    (fuel : Nat) (env env' : Env V) (u : Unit) (h : evalS sem fuel s env = some (.ok u env'))
    (regs : Reg → V) :
    ∃ k regs', run sem code k ⟨0, regs, env, []⟩ = some (.halt ⟨code.length - 1, regs', env', []⟩) := by
  obtain ⟨body, hb, rfl⟩ := compileProgram_some hc
  obtain ⟨regs', hs⟩ := (codeS_ok sem fuel s 0 0 body hb _ (Embeds.init body [.halt]) regs env []).1 u env' h
  rw [Nat.zero_add] at hs
  obtain ⟨k, hk⟩ := run_of_steps sem hs (.halt ⟨body.length, regs', env', []⟩)
    (by unfold stepH; rw [step_at sem List.getElem?_concat_length]; rfl) (by intro t; simp)
  exact ⟨k, regs', by simpa using hk⟩

/-- **a program that throws**: if the reference semantics ends with an uncaught `er` and environment
    `env'` (the side effects made before the throw, and by the handlers that ran), the compiled
    program ends with the uncaught `er` and environment `env'` -/
theorem program_throws (s : Stmt) (code : List Op) (hc : compileProgram s = some code)
    (fuel : Nat) (env env' : Env V) (er : Err) (h : evalS sem fuel s env = some (.thrown er env'))
    (regs : Reg → V) :
    ∃ k pc regs', run sem code k ⟨0, regs, env, []⟩ = some (.throw er ⟨pc, regs', env', []⟩) := by
  obtain ⟨body, hb, rfl⟩ := compileProgram_some hc
  obtain ⟨pc, regs', hs, ht⟩ := (codeS_ok sem fuel s 0 0 body hb _ (Embeds.init body [.halt]) regs env []).2 er env' h
  obtain ⟨k, hk⟩ := run_of_steps sem hs (.throw er ⟨pc, regs', env', []⟩) (by simp [stepH, ht]) (by intro t; simp)
  exact ⟨k, pc, regs', hk⟩

/-- **`try { … } catch { }` lets nothing escape**: whatever the block does - any statements, any
    nesting, a throw at any depth of any expression - the statement completes normally, with the
    side effects made before the throw -/
theorem empty_catch_total (fuel : Nat) (body : List Stmt) (env : Env V) (r : Res V Err Unit)
    (h : evalS sem fuel (.tryCatch body []) env = some r) : ∃ u env', r = .ok u env' := by
  rw [evalS_tryCatch] at h
  generalize evalL sem fuel body env = o at h
  rcases o with _ | ⟨u, env'⟩ | ⟨er, env'⟩
  · cases h
  · exact ⟨u, env', (Option.some.inj h).symm⟩
  · unfold catchR evalL at h
    exact ⟨(), env', (Option.some.inj h).symm⟩

/-- the VM is deterministic in its fuel: more fuel never changes a result already reached -/
theorem run_mono {C : List Op} : ∀ (k : Nat) (s : St V) (o : Out V Err), run sem C k s = some o →
    ∀ j, run sem C (k + j) s = some o
  | 0, _, _, h, _ => by simp [run] at h
  | k + 1, s, o, h, j => by
    rw [Nat.add_right_comm k 1 j]
    cases hstep : stepH sem C s with
    | next s' =>
      simp only [run, hstep] at h ⊢
      exact run_mono k s' o h j
    | halt t => simp only [run, hstep] at h ⊢; exact h
    | throw e t => simp only [run, hstep] at h ⊢; exact h
    | fault => simp only [run, hstep] at h ⊢; exact h

/-- **the outcome is unique**: whatever fuel two runs of the same code from the same state use, they
    end in the same outcome -/
theorem run_unique {C : List Op} (s : St V) (k₁ k₂ : Nat) (o₁ o₂ : Out V Err)
    (h₁ : run sem C k₁ s = some o₁) (h₂ : run sem C k₂ s = some o₂) : o₁ = o₂ := by
  have a := run_mono sem k₁ s o₁ h₁ k₂
  have b := run_mono sem k₂ s o₂ h₂ k₁
  rw [Nat.add_comm] at b
  rw [a] at b
  exact Option.some.inj b

end

/-- **size either works or is refused, and the limit is the construct's own register demand**: a
    statement is refused exactly when it needs more than the 255 registers a `u8` names; what is
    accepted is compiled correctly whatever its size (`program_completes`, `program_throws`) -/
theorem program_refused_iff (s : Stmt) : compileProgram s = none ↔ 255 < needS s := by
  rw [compileProgram_eq]
  have := codeS_isSome_iff s 0 0 (by omega)
  cases h : codeS s 0 0 with
  | none => simp [h] at this ⊢; omega
  | some body => simp [h] at this ⊢; omega

/-- the limit of `b = a + (a + (a + …))`: 127 levels compile, 128 do not -/
theorem rightNested_limit (d : Nat) :
    compileProgram (.expr (.asg "b" .assign (rightNested d))) = none ↔ 128 ≤ d := by
  rw [program_refused_iff]
  simp only [needS, need, need_rightNested]
  omega

/-- the limit of `b = a + 1 + 1 + …`: 253 additions compile, 254 do not -/
theorem leftNested_limit (d : Nat) :
    compileProgram (.expr (.asg "b" .assign (leftNested d))) = none ↔ 254 ≤ d := by
  rw [program_refused_iff]
  simp only [needS, need, need_leftNested]
  split <;> omega

/-- **the register file is never indexed out of range**: every register an instruction of the
    compiled program names is below the program's register demand `needS s` (the chunk's
    `register_count`: the driver checks `max_used = needS` on every generated statement) -/
theorem program_registers_in_file (s : Stmt) (code : List Op) (hc : compileProgram s = some code) :
    ∀ op ∈ code, ∀ r ∈ opRegs op, r < needS s := by
  obtain ⟨body, hb, rfl⟩ := compileProgram_some hc
  intro op hop r hr
  rcases List.mem_append.mp hop with h | h
  · have := codeS_regs s 0 0 body hb op h r hr
    omega
  · simp only [List.mem_singleton] at h
    subst h
    cases hr

section
variable {V Err : Type} (sem : Sem V Err)

/-- **the VM never runs off the code**: when the reference semantics of the program terminates
    (normally or by a throw), no run of the compiled program, whatever its fuel, ends in a fault
    (a case of `compiled_never_faults`, which does not ask for termination) -/
theorem program_no_fault (s : Stmt) (code : List Op) (hc : compileProgram s = some code)
    (fuel : Nat) (env : Env V) (r : Res V Err Unit) (h : evalS sem fuel s env = some r)
    (regs : Reg → V) (k : Nat) : run sem code k ⟨0, regs, env, []⟩ ≠ some .fault :=
  compiled_never_faults sem s code hc regs env k

end

/-! ### non-vacuity: concrete programs through the whole chain (arithmetic on `Int`) -/

def intSem : Sem Int String where
  lit := fun | .num z => z | .bool true => 1 | _ => 0
  truthy := fun v => v != 0
  nullish := fun _ => false
  un := fun op v => match op with | .neg => .ok (-v) | .not => .ok (if v = 0 then 1 else 0) | _ => .ok v
  bin := fun op a b => match op with
    | .add => .ok (a + b) | .sub => .ok (a - b) | .mul => .ok (a * b)
    | .lt => .ok (if a < b then 1 else 0)
    | .div => if b = 0 then .error "div0" else .ok (a / b)
    | _ => .ok 0
  refErr := fun x => "ReferenceError:" ++ x
  ofVal := fun v => "thrown:" ++ toString v

/-- `while (i < 5) { s += i * i; i++ }` -/
def sumSquares : Stmt :=
  .while_ (.bin .lt (.var "i") (.lit (.num 5)))
    (.block [.expr (.asg "s" (.bin .add) (.bin .mul (.var "i") (.var "i"))), .expr (.upd "i" true false)])

example : (codeS sumSquares 0 0).map List.length = some 20 := by decide
example : (match (codeS sumSquares 0 0).bind (fun code => run intSem (code ++ [.halt]) 200 ⟨0, fun _ => 0, [("i", 0), ("s", 0)], []⟩) with
    | some (.halt s) => s.env | _ => []) = [("i", 5), ("s", 30)] := by decide
/-- a throw in the middle keeps the earlier side effect: `(x = 7, 1 / 0)` -/
example : (match evalE intSem (.seq (.asg "x" .assign (.lit (.num 7))) (.bin .div (.lit (.num 1)) (.lit (.num 0)))) [("x", 0)] with
    | .thrown e env => (e, env) | _ => ("", [])) = ("div0", [("x", 7)]) := by decide
example : (match (codeE (.seq (.asg "x" .assign (.lit (.num 7))) (.bin .div (.lit (.num 1)) (.lit (.num 0)))) 0 1 0).bind
      (fun code => run intSem (code ++ [.halt]) 50 ⟨0, fun _ => 0, [("x", 0)], []⟩) with
    | some (.throw e s) => (e, s.env) | _ => ("", [])) = ("div0", [("x", 7)]) := by decide
/-- `try { x = 7; throw 1; x = 9 } catch { y = x }`: the handler runs, sees the side effect made before the throw -/
def tryDemo : Stmt :=
  .tryCatch [.expr (.asg "x" .assign (.lit (.num 7))), .throw_ (.lit (.num 1)), .expr (.asg "x" .assign (.lit (.num 9)))]
    [.expr (.asg "y" .assign (.var "x"))]

example : (match (codeS tryDemo 0 0).bind (fun code => run intSem (code ++ [.halt]) 100 ⟨0, fun _ => 0, [("x", 0), ("y", 0)], []⟩) with
    | some (.halt s) => (s.env, s.hs) | _ => ([], [0])) = ([("x", 7), ("y", 7)], []) := by decide

end TsrunVerif.Compile
