import TsrunVerif.Model.Json

/-!
# C16 — data crosses the JSON boundary without loss

Property theorems over M-Json, for every document / every string (structural induction, no
size bound).
-/
namespace TsrunVerif.Json

/-! ## keys: canonicalisation loses nothing -/

/-- `key.to_string()` of the canonical key is the original text, for every string. -/
theorem key_canon (s : List Char) : keyToString (propertyKey s) = s := by
  unfold propertyKey
  split
  · split
    · rename_i h; simpa [keyToString] using h.2
    · rfl
  · rfl

/-- hence two different JSON keys never collide after canonicalisation. -/
theorem propertyKey_injective (a b : List Char) (h : propertyKey a = propertyKey b) : a = b := by
  have := congrArg keyToString h
  rwa [key_canon, key_canon] at this

/-! ## host round trip: a document handed in reads back as the same document -/

/-- numbers that survive: finite and not negative zero (JSON has no -0 after a round trip
through a double and `JSON.stringify(-0) = "0"`). -/
def NumOk (bits : Nat) : Prop := isFiniteBits bits = true ∧ bits ≠ 2 ^ 63

mutual
  inductive Clean : Json → Prop
    | null : Clean .null
    | bool (b) : Clean (.bool b)
    | num (n) : NumOk n → Clean (.num n)
    | str (s) : Clean (.str s)
    | arr (l) : CleanList l → Clean (.arr l)
    | obj (kvs) : CleanKvs kvs → Clean (.obj kvs)
  inductive CleanList : List Json → Prop
    | nil : CleanList []
    | cons (j t) : Clean j → CleanList t → CleanList (j :: t)
  inductive CleanKvs : List (List Char × Json) → Prop
    | nil : CleanKvs []
    | cons (k j t) : Clean j → CleanKvs t → CleanKvs ((k, j) :: t)
end

theorem hasJsonForm_fromJson (j : Json) : hasJsonForm (fromJson j) = true := by
  cases j <;> rfl

mutual
  /-- **host_roundtrip**: `js_value_to_json (json_to_js_value d) = d`. -/
  theorem host_roundtrip : ∀ (d : Json), Clean d → toJson (fromJson d) = d
    | .null, _ => rfl
    | .bool _, _ => rfl
    | .num n, h => by
      cases h with
      | num _ hn =>
        have h1 : isFiniteBits n = true := hn.1
        have h2 := beq_false_of_ne hn.2
        simp [fromJson, toJson, h1, h2]
    | .str _, _ => rfl
    | .arr l, h => by
      cases h with
      | arr _ hl => exact congrArg Json.arr (host_roundtrip_list l hl)
    | .obj kvs, h => by
      cases h with
      | obj _ hk => exact congrArg Json.obj (host_roundtrip_kvs kvs hk)
  theorem host_roundtrip_list : ∀ (l : List Json), CleanList l → toJsonList (fromJsonList l) = l
    | [], _ => rfl
    | j :: t, h => by
      cases h with
      | cons _ _ hj ht => rw [fromJsonList, toJsonList, host_roundtrip j hj, host_roundtrip_list t ht]
  theorem host_roundtrip_kvs : ∀ (kvs : List (List Char × Json)), CleanKvs kvs →
      toJsonProps (fromJsonKvs kvs) = kvs
    | [], _ => rfl
    | (k, j) :: t, h => by
      cases h with
      | cons _ _ _ hj ht =>
        rw [fromJsonKvs, toJsonProps, if_pos (hasJsonForm_fromJson j), key_canon, host_roundtrip j hj,
          host_roundtrip_kvs t ht]
end

/-! ## script read-back: every member is found under the spelling a script uses -/

/-- **script_read_back**: reading `obj[k]` on the value built from a JSON object yields the
value built from the JSON member `k` — for every key text, including "0", "17", "01", "". -/
theorem script_read_back (kvs : List (List Char × Json)) (k : List Char) :
    getProp (fromJsonKvs kvs) k = (getMember kvs k).map fromJson := by
  induction kvs with
  | nil => simp [fromJsonKvs, getProp, getMember]
  | cons p t ih =>
    obtain ⟨k', j⟩ := p
    unfold getProp getMember at *
    simp only [fromJsonKvs, List.find?_cons]
    by_cases hk : k' = k
    · subst hk; simp
    · have h1 : (propertyKey k' == propertyKey k) = false := by
        apply beq_false_of_ne
        intro e; exact hk (propertyKey_injective _ _ e)
      have h2 : (k' == k) = false := beq_false_of_ne hk
      simp only [h1, h2]
      exact ih

/-! ## serialisation is well formed: no non-finite number, no member without a JSON form -/

mutual
  inductive WellFormed : Json → Prop
    | null : WellFormed .null
    | bool (b) : WellFormed (.bool b)
    | num (n) : isFiniteBits n = true → WellFormed (.num n)
    | str (s) : WellFormed (.str s)
    | arr (l) : WellFormedList l → WellFormed (.arr l)
    | obj (kvs) : WellFormedKvs kvs → WellFormed (.obj kvs)
  inductive WellFormedList : List Json → Prop
    | nil : WellFormedList []
    | cons (j t) : WellFormed j → WellFormedList t → WellFormedList (j :: t)
  inductive WellFormedKvs : List (List Char × Json) → Prop
    | nil : WellFormedKvs []
    | cons (k j t) : WellFormed j → WellFormedKvs t → WellFormedKvs ((k, j) :: t)
end

mutual
  /-- **stringify_wellformed**: every acyclic value serialises to a tree a conforming JSON
  writer can print (non-finite numbers have become `null`). -/
  theorem stringify_wellformed : ∀ (v : Js), WellFormed (toJson v)
    | .undef => .null
    | .null => .null
    | .bool b => .bool b
    | .num n => by
      simp only [toJson]
      split
      · rename_i h
        apply WellFormed.num
        split
        · decide
        · exact h
      · exact .null
    | .str s => .str s
    | .arr l => by simp only [toJson]; exact .arr _ (stringify_wellformed_list l)
    | .obj ps => by simp only [toJson]; exact .obj _ (stringify_wellformed_props ps)
    | .func => .null
    | .symbol => .null
  theorem stringify_wellformed_list : ∀ (l : List Js), WellFormedList (toJsonList l)
    | [] => .nil
    | v :: t => by
      simp only [toJsonList]
      exact .cons _ _ (stringify_wellformed v) (stringify_wellformed_list t)
  theorem stringify_wellformed_props : ∀ (ps : List (Key × Js)), WellFormedKvs (toJsonProps ps)
    | [] => .nil
    | (k, v) :: t => by
      simp only [toJsonProps]
      split
      · exact .cons _ _ _ (stringify_wellformed v) (stringify_wellformed_props t)
      · exact stringify_wellformed_props t
end

/-- members without a JSON form are omitted from objects, whatever surrounds them. -/
theorem omitted_members (k : Key) (v : Js) (t : List (Key × Js)) (h : hasJsonForm v = false) :
    toJsonProps ((k, v) :: t) = toJsonProps t := by
  simp [toJsonProps, h]

/-! ## non-vacuity -/
example : propertyKey "0".toList = .index 0 ∧ propertyKey "17".toList = .index 17 ∧
    propertyKey "01".toList = .str "01".toList ∧ propertyKey "".toList = .str [] ∧
    propertyKey "4294967296".toList = .str "4294967296".toList := by decide
example : Clean (.obj [("0".toList, .num 4607182418800017408), ("a".toList, .arr [.null, .str "x".toList])]) := by
  refine .obj _ (.cons _ _ _ (.num _ ⟨by decide, by decide⟩) (.cons _ _ _ (.arr _ ?_) .nil))
  exact .cons _ _ .null (.cons _ _ (.str _) .nil)
example : toJson (.obj [(.str "f".toList, .func), (.str "u".toList, .undef), (.index 1, .num (2047 * 2 ^ 52))])
    = .obj [("1".toList, .null)] := by rfl

end TsrunVerif.Json
