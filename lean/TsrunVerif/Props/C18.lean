import TsrunVerif.Lemmas.Path

/-!
# C18 — Module specifiers resolve to canonical paths

Property theorems only (the predicates and helper lemmas are in `Lemmas/Path.lean`).  Every theorem
quantifies over *all* specifier / importer strings (unbounded length, any
characters).  `Abs p` = "p starts with `/`", `Canonical p` = "p is `/` followed by
ordinary segments joined by single slashes" (ordinary: non-empty, not `.`, not
`..`, no `/` inside) — hence absolute (`Canonical.abs`), without empty, `.` or `..` segment, and
without trailing slash unless the path is `/` (`canonical_no_trailing_slash`).
-/
namespace TsrunVerif.Path

theorem resolve_bare (s : List Char) (b : Option (List Char)) (h : isBare s = true) :
    resolve s b = s := by
  simp [resolve, h]

theorem resolve_spec_relative (s b dir : List Char) (hrel : isRelative s = true)
    (hdir : parent b = some dir) :
    resolve s (some b) = normalize (dir ++ '/' :: s) := by
  simp [resolve, isBare, hrel, not_abs_of_isRelative s hrel, hdir]

theorem resolve_spec_absolute (s : List Char) (b : Option (List Char)) (h : Abs s) :
    resolve s b = normalize s := by
  rw [Abs] at h
  simp [resolve, isBare, h]

theorem resolve_canonical (s b : List Char) (hb : Abs b) (hs : isBare s = false) :
    Canonical (resolve s (some b)) := by
  obtain ⟨d, hd, hdabs⟩ := parent_abs b hb
  by_cases h : startsWithSlash s = true
  · rw [resolve_spec_absolute s _ h]; exact canonical_normalize s h
  · have hrel : isRelative s = true := by simpa [isBare, h] using hs
    rw [resolve_spec_relative s b d hrel hd]; exact canonical_normalize _ (hdabs s)

/-- "the result of resolving against an absolute importer is absolute". -/
theorem resolve_abs (s b : List Char) (hb : Abs b) (hs : isBare s = false) :
    Abs (resolve s (some b)) :=
  (resolve_canonical s b hb hs).abs

/-- canonical paths have no trailing slash (except the root itself). -/
theorem canonical_no_trailing_slash (p : List Char) (h : Canonical p) :
    p = ['/'] ∨ p.getLast? ≠ some '/' := by
  obtain ⟨l, rfl, hl⟩ := h
  cases l with
  | nil => left; rfl
  | cons s t =>
    obtain ⟨q, c, hq, hc⟩ := joinSlash_last (s :: t) (by simp) hl
    right
    rw [hq, ← List.cons_append, List.getLast?_concat]
    exact fun e => hc (Option.some.inj e)

theorem resolve_idem (s b : List Char) (b' : Option (List Char)) (hb : Abs b)
    (hs : isBare s = false) :
    resolve (resolve s (some b)) b' = resolve s (some b) := by
  rw [resolve_spec_absolute _ b' (resolve_abs s b hb hs)]
  exact normalize_of_canonical _ (resolve_canonical s b hb hs)

/-! ## equal spellings resolve equally

The three laws are the three branches of `normStep`, through `normalize_respell` and `resolve_respell`. -/

/-- inserting `/.` changes nothing. -/
theorem normalize_dot (a b : List Char) :
    normalize (a ++ '/' :: '.' :: '/' :: b) = normalize (a ++ '/' :: b) :=
  normalize_respell a _ _ fun acc => by simp [splitSlash, normStep]

/-- doubling a slash changes nothing. -/
theorem normalize_dblslash (a b : List Char) :
    normalize (a ++ '/' :: '/' :: b) = normalize (a ++ '/' :: b) :=
  normalize_respell a _ _ fun acc => by simp [splitSlash, normStep]

/-- `x/..` cancels for an ordinary segment `x`. -/
theorem normalize_dotdot (a x b : List Char) (hx : Ordinary x) :
    normalize (a ++ '/' :: (x ++ '/' :: '.' :: '.' :: '/' :: b)) = normalize (a ++ '/' :: b) :=
  normalize_respell a _ _ fun acc => by
    have hdd : splitSlash ('.' :: '.' :: '/' :: b) = ['.', '.'] :: splitSlash b := by simp [splitSlash]
    rw [splitSlash_append, splitSlash_of_noSlash x hx.2.2.2, hdd, List.singleton_append, List.foldl_cons,
      List.foldl_cons, normStep_of_ordinary acc hx]
    simp [normStep]

/-- `a/./b` and `a/b` resolve to the same path. -/
theorem resolve_spelling_dot (s1 s2 : List Char) (b : Option (List Char))
    (hnb : isBare (s1 ++ '/' :: s2) = false) :
    resolve (s1 ++ '/' :: '.' :: '/' :: s2) b = resolve (s1 ++ '/' :: s2) b :=
  resolve_respell s1 _ _ b (fun a => normalize_dot a s2) hnb

/-- `a//b` and `a/b` resolve to the same path. -/
theorem resolve_spelling_dblslash (s1 s2 : List Char) (b : Option (List Char))
    (hnb : isBare (s1 ++ '/' :: s2) = false) :
    resolve (s1 ++ '/' :: '/' :: s2) b = resolve (s1 ++ '/' :: s2) b :=
  resolve_respell s1 _ _ b (fun a => normalize_dblslash a s2) hnb

/-- `a/x/../b` and `a/b` resolve to the same path (x an ordinary segment). -/
theorem resolve_spelling_dotdot (s1 x s2 : List Char) (b : Option (List Char))
    (hx : Ordinary x) (hnb : isBare (s1 ++ '/' :: s2) = false) :
    resolve (s1 ++ '/' :: (x ++ '/' :: '.' :: '.' :: '/' :: s2)) b = resolve (s1 ++ '/' :: s2) b :=
  resolve_respell s1 _ _ b (fun a => normalize_dotdot a x s2 hx) hnb

/-! ## the pre-fix code violated `resolve_abs` (witness: `./m.ts` from `/main.ts`) -/
theorem resolveOld_not_abs :
    ¬ (∀ s b, Abs b → isBare s = false → Abs (resolveOld s (some b))) := by
  intro h
  have := h "./m.ts".toList "/main.ts".toList rfl rfl
  unfold Abs at this
  revert this
  decide

/-! ## non-vacuity: the hypotheses are satisfiable and the results concrete -/
example : resolve "./utils.ts".toList (some "/src/app/main.ts".toList) = "/src/app/utils.ts".toList := by
  decide
example : resolve "./m.ts".toList (some "/main.ts".toList) = "/m.ts".toList := by decide
example : resolve "../../../x".toList (some "/a/b.ts".toList) = "/x".toList := by decide
example : Abs "/main.ts".toList ∧ isBare "./m.ts".toList = false := by unfold Abs; decide
example : Ordinary "a.ts".toList := by unfold Ordinary; decide

end TsrunVerif.Path
