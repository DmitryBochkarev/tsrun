import TsrunVerif.Model.Orders
import TsrunVerif.Lemmas.Assoc

/-!
# C08 — the order protocol is exact (ledger part)

For every event sequence (any interleaving of script-side and promise-side events with
reports): ids are fresh and strictly increasing, no order is ever reported twice, every order
that is still un-cancelled is reported at the next report, and every cancellation reaches the
host exactly once.
-/
namespace TsrunVerif.Orders

def Inv (l : Ledger) : Prop := l.pending.Pairwise (· < ·) ∧ ∀ i ∈ l.pending, i < l.nextId

theorem inv_init : Inv Ledger.init := by simp [Inv, Ledger.init]

theorem inv_step (l : Ledger) (e : Ev) (h : Inv l) : Inv (step l e).1 := by
  obtain ⟨h1, h2⟩ := h
  cases e with
  | issue =>
    refine ⟨pairwise_concat.mpr ⟨h1, h2⟩, fun i hi => ?_⟩
    rcases List.mem_append.mp hi with h | h
    · exact Nat.lt_succ_of_lt (h2 i h)
    · rw [List.mem_singleton.mp h]; exact Nat.lt_succ_self _
  | getId => exact ⟨h1, fun i hi => Nat.lt_succ_of_lt (h2 i hi)⟩
  | cancel id =>
    exact ⟨List.Pairwise.sublist List.filter_sublist h1, fun i hi => h2 i (List.mem_filter.mp hi).1⟩
  | mark id => exact ⟨h1, h2⟩
  | report => exact ⟨.nil, nofun⟩

theorem nextId_mono (l : Ledger) (e : Ev) : l.nextId ≤ (step l e).1.nextId := by
  cases e with
  | issue | getId => exact Nat.le_succ _
  | _ => exact Nat.le_refl _

theorem step_quiet (l : Ledger) (e : Ev) (h : e ≠ .report) : (step l e).2 = none := by
  cases e <;> first | rfl | exact absurd rfl h

theorem step_pending (l : Ledger) (e : Ev) : ∀ i ∈ (step l e).1.pending, i ∈ l.pending ∨ i = l.nextId := by
  cases e <;> simp only [step]
  case issue => exact fun i hi => (List.mem_append.mp hi).imp_right List.mem_singleton.mp
  case cancel id => exact fun i hi => Or.inl (List.mem_filter.mp hi).1
  case report => exact fun i hi => absurd hi List.not_mem_nil
  all_goals exact fun i hi => Or.inl hi

/-- **fresh, increasing ids**: over any event sequence the ids reported to the host are
strictly increasing (every id is new and larger than all earlier ones) and each is either one
that was already waiting or one allocated later. -/
theorem reported_increasing (evs : List Ev) :
    ∀ l, Inv l → (reportedPending (reports l evs)).Pairwise (· < ·) ∧
      (∀ i ∈ reportedPending (reports l evs), i ∈ l.pending ∨ l.nextId ≤ i) := by
  induction evs with
  | nil => intro l _; simp [reports, reportedPending]
  | cons e t ih =>
    intro l hinv
    obtain ⟨ih1, ih2⟩ := ih (step l e).1 (inv_step l e hinv)
    by_cases he : e = .report
    · -- the report hands over `l.pending`, all below `nextId`; everything later is allocated later
      subst he
      have hlater : ∀ i ∈ reportedPending (reports (step l .report).1 t), l.nextId ≤ i :=
        fun i hi => (ih2 i hi).elim (fun h => absurd h List.not_mem_nil) id
      rw [show reportedPending (reports l (.report :: t))
        = l.pending ++ reportedPending (reports (step l .report).1 t) from List.flatMap_cons ..]
      exact ⟨List.pairwise_append.mpr ⟨hinv.1, ih1, fun a ha b hb => Nat.lt_of_lt_of_le (hinv.2 a ha) (hlater b hb)⟩,
        fun i hi => (List.mem_append.mp hi).imp_right (hlater i)⟩
    · rw [reports, step_quiet l e he, optList, List.nil_append]
      refine ⟨ih1, fun i hi => (ih2 i hi).elim (fun h => ?_) (fun h => Or.inr (Nat.le_trans (nextId_mono l e) h))⟩
      exact (step_pending l e i h).imp_right fun h' => Nat.le_of_eq h'.symm

/-- **order_once**: from the initial ledger no id is ever handed to the host twice. -/
theorem order_once (evs : List Ev) : (reportedPending (reports Ledger.init evs)).Nodup := by
  have := (reported_increasing evs Ledger.init inv_init).1
  exact List.Pairwise.imp (fun h => Nat.ne_of_lt h) this

/-- an order that is issued and not cancelled is handed to the host by the *next* report,
together with everything else that was waiting (nothing is lost in between). -/
theorem issued_reported_next (quiet : List Ev) (hq : ∀ e ∈ quiet, e = .getId ∨ ∃ i, e = .mark i) :
    ∀ l : Ledger, ∃ c, reports l (quiet ++ [.report]) = [(l.pending, c)] := by
  induction quiet with
  | nil => intro l; exact ⟨l.cancelled, by simp [reports, step, optList]⟩
  | cons e t ih =>
    intro l
    -- a quiet event reports nothing and leaves `pending` as it is
    have he : e ≠ .report ∧ (step l e).1.pending = l.pending := by
      rcases hq e (by simp) with rfl | ⟨i, rfl⟩ <;> exact ⟨nofun, rfl⟩
    obtain ⟨c, hc⟩ := ih (fun e he => hq e (by simp [he])) (step l e).1
    exact ⟨c, by rw [List.cons_append, reports, step_quiet l e he.1, optList, List.nil_append, hc, he.2]⟩

theorem issue_then_report (l : Ledger) (quiet : List Ev) (hq : ∀ e ∈ quiet, e = .getId ∨ ∃ i, e = .mark i) :
    ∃ c, reports l (.issue :: quiet ++ [.report]) = [(l.pending ++ [l.nextId], c)] := by
  obtain ⟨c, hc⟩ := issued_reported_next quiet hq (step l .issue).1
  exact ⟨c, by simpa [reports, step, optList] using hc⟩

/-- **cancel_once**: every cancellation (explicit, rejected order promise, race loser) reaches
the host exactly once: the cancelled ids reported plus the ones still buffered are exactly the
buffered ones plus the cancellation events, in order. -/
theorem cancel_once (evs : List Ev) :
    ∀ l, reportedCancelled (reports l evs) ++ (final l evs).cancelled =
      l.cancelled ++ evs.filterMap (fun e => match e with | .cancel i => some i | .mark i => some i | _ => none) := by
  induction evs with
  | nil => intro l; simp [reports, final, reportedCancelled]
  | cons e t ih =>
    intro l
    -- one event: what it reports and what it leaves buffered is what was buffered plus its own cancellation
    have hstep : (optList (step l e).2).flatMap (·.2) ++ (step l e).1.cancelled =
        l.cancelled ++ [e].filterMap (fun e => match e with | .cancel i => some i | .mark i => some i | _ => none) := by
      cases e with
      | cancel _ | mark _ => rfl
      | _ => simp [step, optList]
    have ih' := ih (step l e).1
    rw [reportedCancelled] at ih' ⊢
    rw [reports, final, List.flatMap_append, List.append_assoc, ih', ← List.append_assoc, hstep, List.append_assoc,
      ← List.filterMap_append, List.singleton_append]

/-- after a report nothing is buffered: a following report is empty (no duplicate delivery). -/
theorem report_drains (l : Ledger) : (step (step l .report).1 .report).2 = some ([], []) := by
  simp [step]

/-! ## non-vacuity -/
example : reports Ledger.init [.issue, .report, .issue, .getId, .issue, .cancel 2, .mark 1, .report, .report]
    = [([1], []), ([4], [2, 1]), ([], [])] := by decide

end TsrunVerif.Orders
