import TsrunVerif.Lemmas.Emit
/-!
C04 — TypeScript's run-time constructs behave as their standard JavaScript emit.
Property theorems over M-Emit (`Model/Emit.lean`).
-/
namespace TsrunVerif.Emit

/-- **Enums.** For every well-formed member list (any mix of auto-numbered, initialised and
computed/string members, duplicate values, duplicate names) and every object the declaration
starts from (the empty object, or - merged declarations - what earlier declarations of the same
enum built), tsrun's lowering builds exactly the object the TypeScript emit builds. -/
theorem lower_eq_emit (ms : List Member) (o : Obj) (h : WellFormed ms) :
    lower ms o = emit ms o :=
  lower_emit_gen ms none o h

/-- the members as tsc evaluates them -/
def values (ms : List Member) : List (String × EVal) := vals none ms

/-- **Forward mapping, merging.** `E.X` is the value of the last member named `X`; a name the
declaration does not mention keeps what the earlier declarations gave it. -/
theorem forward_lookup (ms : List Member) (o : Obj) (x : String) :
    (emit ms o).get (.name x) =
      match lastWith (fun p => decide (p.1 = x)) (values ms) with
      | some p => some p.2
      | none => o.get (.name x) := by
  unfold emit values
  rw [emit_fold_vals]
  exact foldl_write_get _ _ (·.2) (fun o p => by simp [write_get_name]) _ o

/-- **Reverse mapping, last writer wins.** `E[n]` is the name of the *last* member whose value is
the number `n` (auto-numbered, initialised or computed alike); string members have no reverse
entry; a number no member has keeps the earlier declarations' entry. -/
theorem reverse_last_writer (ms : List Member) (o : Obj) (n : Int) :
    (emit ms o).get (.idx n) =
      match lastWith (fun p => decide (p.2 = .num n)) (values ms) with
      | some p => some (.str p.1)
      | none => o.get (.idx n) := by
  unfold emit values
  rw [emit_fold_vals]
  exact foldl_write_get _ _ (.str ·.1) (fun o p => by simp [write_get_idx]) _ o

/-- **Auto-increment.** a member without initialiser directly after a member with numeric value
`n` has value `n + 1`, whatever kind of initialiser that member had. -/
theorem auto_increment (pre : List Member) (a b : String) (n : Int) (post : List Member) (o : Obj)
    (hb : ∀ m ∈ post, m.name ≠ b) :
    (emit (pre ++ [⟨a, .val (.num n)⟩, ⟨b, .auto⟩] ++ post) o).get (.name b) = some (.num (n + 1)) := by
  have h : ∀ prev, lastWith (fun p => decide (p.1 = b)) (vals prev ([⟨a, .val (.num n)⟩, ⟨b, .auto⟩] ++ post)) =
      some (b, .num (n + 1)) := fun prev => by
    simp [vals, lastWith, lastWith_vals_none post _ hb]
  rw [forward_lookup, values, List.append_assoc, lastWith_vals_append h]

/-- **Namespaces.** For every body of a namespace block, every namespace object it starts from and
every set of members exported by earlier blocks, tsrun's alias bindings compute the namespace
object the emit (exported variables are properties `N.x`) computes. -/
theorem ns_block_alias_eq_emit (obj : Ns.Store) (exported : List String) (body : List Ns.Stmt) :
    (Ns.blockAlias obj exported body).obj = (Ns.blockEmit obj exported body).obj :=
  (Ns.body_sim body _ _ (Ns.sim_init obj exported)).1

/-- … and so for every sequence of merged blocks. -/
theorem ns_merged_alias_eq_emit (blocks : List (List Ns.Stmt)) :
    Ns.runAlias blocks = Ns.runEmit blocks := by
  simp only [Ns.runAlias, Ns.runEmit, ns_block_alias_eq_emit]

/-- an exported variable is live: what a later statement of the body (or a function of the
namespace, which evaluates in the same scope) reads through the bare name is the property. -/
theorem ns_export_is_property (s : Ns.AliasSt) (x : String) (e : Ns.Expr) :
    Ns.evalAlias (Ns.stepAlias s (.exportVar x e)) (.var x) =
      ((Ns.stepAlias s (.exportVar x e)).obj.get x).getD 0 := by
  simp [Ns.stepAlias, Ns.evalAlias, Ns.lookupB]

/-- **Parameter properties.** After the constructor prologue `this.x` holds the argument of the
last parameter property named `x`; every other property is what it was. -/
theorem ctor_param_properties (this props : List (String × Int)) (x : String) :
    Ns.Store.get (ctorPrologue this props) x =
      match (props.reverse.find? (fun p => decide (p.1 = x))) with
      | some p => some p.2
      | none => Ns.Store.get this x := by
  induction props generalizing this with
  | nil => rfl
  | cons p ps ih =>
    rw [ctorPrologue, List.foldl_cons, ← ctorPrologue, ih, List.reverse_cons, List.find?_append]
    cases List.find? (fun p => decide (p.1 = x)) ps.reverse with
    | some r => rfl
    | none =>
      rw [Ns.Store.get_set]
      by_cases hx : p.1 = x <;> simp [hx]

-- non-vacuity: a well-formed declaration with every member kind, duplicate values and a merge
example : WellFormed [⟨"A", .auto⟩, ⟨"B", .val (.num 6)⟩, ⟨"C", .auto⟩, ⟨"S", .val (.str "s")⟩,
    ⟨"D", .val (.num 6)⟩, ⟨"E", .auto⟩] := by unfold WellFormed; decide
example : (emit [⟨"B", .val (.num 6)⟩, ⟨"D", .val (.num 6)⟩, ⟨"E", .auto⟩] [(.name "A", .num 0), (.idx 0, .str "A")]).get (.idx 6)
    = some (.str "D") := by decide
example : (emit [⟨"B", .val (.num 6)⟩, ⟨"D", .val (.num 6)⟩, ⟨"E", .auto⟩] [(.name "A", .num 0), (.idx 0, .str "A")]).get (.name "E")
    = some (.num 7) := by decide
example : (Ns.runAlias [[.exportVar "x" (.lit 1), .localVar "h" (.lit 5), .assign "x" (.add (.var "x") (.var "h"))],
    [.exportVar "y" (.add (.var "x") (.lit 1))]]).1 = [("x", 6), ("y", 7)] := by decide

end TsrunVerif.Emit
