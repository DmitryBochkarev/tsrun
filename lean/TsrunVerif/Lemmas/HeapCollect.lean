import TsrunVerif.Lemmas.HeapMark

/-! `collect` reclaims exactly the unreachable slots; the heap invariant. -/
namespace TsrunVerif.Heap

theorem getElem?_sweepSlots (slots : List Slot) (marked : List Nat) (i : Nat) :
    (sweepSlots slots marked)[i]? =
      (slots[i]?).map (fun s => if s.pooled || marked.contains i then s
                                else { payload := 0, links := [], pooled := true }) :=
  List.getElem?_mapIdx

theorem pooledAt_sweep (h : Heap) (m : List Nat) (i : Nat) :
    pooledAt (sweep h m) i = (pooledAt h i || !m.contains i) := by
  simp only [pooledAt, sweep, getElem?_sweepSlots]
  cases h.slots[i]? with
  | none => rfl
  | some s => cases hp : s.pooled <;> cases m.contains i <;> simp [hp]

theorem mem_sweptIdx (h : Heap) (m : List Nat) (i : Nat) :
    i ∈ sweptIdx h.slots m ↔ pooledAt h i = false ∧ i ∉ m := by
  simp only [sweptIdx, List.mem_filter, List.mem_range, pooledAt]
  cases hs : h.slots[i]? with
  | none => simp
  | some s => simp [(List.getElem?_eq_some_iff.mp hs).1]

theorem sweep_of_all_marked (h : Heap) (m : List Nat) (hall : ∀ i, pooledAt h i = false → i ∈ m) :
    sweep h m = { h with netAllocs := 0 } := by
  have hs : sweepSlots h.slots m = h.slots := by
    refine List.ext_getElem? fun i => ?_
    rw [getElem?_sweepSlots]
    cases hi : h.slots[i]? with
    | none => rfl
    | some s =>
      have : (s.pooled || m.contains i) = true := by
        cases hp : s.pooled
        · exact List.contains_iff_mem.mpr (hall i ((pooledAt_false_iff h i).mpr ⟨s, hi, hp⟩))
        · rfl
      rw [Option.map_some, if_pos this]
  have hf : sweptIdx h.slots m = [] :=
    List.eq_nil_iff_forall_not_mem.mpr fun i hi =>
      have ⟨hp, hm⟩ := (mem_sweptIdx h m i).mp hi
      hm (hall i hp)
  simp only [sweep, hs, hf, List.append_nil]

theorem collect_eq_sweep (h : Heap) : ∃ m, (∀ i, i ∈ m ↔ Reach h i) ∧ collect h = sweep h m := by
  have := mark_terminates h
  unfold collect
  cases hm : mark h with
  | none => simp [hm] at this
  | some m => exact ⟨m, mark_exact h m hm, rfl⟩

/-- a reachable slot is untouched by a collection. -/
theorem collect_keeps_reachable (h : Heap) (i : Nat) (hr : Reach h i) :
    (collect h).slots[i]? = h.slots[i]? := by
  obtain ⟨m, hm, hc⟩ := collect_eq_sweep h
  simp only [hc, sweep, getElem?_sweepSlots]
  cases h.slots[i]? with
  | none => rfl
  | some s => simp [(hm i).mpr hr]

/-- an unreachable live slot is reset and pooled by a collection. -/
theorem collect_resets_unreachable (h : Heap) (i : Nat) (s : Slot)
    (hs : h.slots[i]? = some s) (hp : s.pooled = false) (hr : ¬ Reach h i) :
    (collect h).slots[i]? = some { payload := 0, links := [], pooled := true } ∧ i ∈ (collect h).free := by
  obtain ⟨m, hm, hc⟩ := collect_eq_sweep h
  have him : i ∉ m := fun hi => hr ((hm i).mp hi)
  rw [hc]
  constructor
  · simp [sweep, getElem?_sweepSlots, hs, hp, him]
  · exact List.mem_append_right _
      ((mem_sweptIdx h m i).mpr ⟨(pooledAt_false_iff h i).mpr ⟨s, hs, hp⟩, him⟩)

/-- a pooled slot stays as it is. -/
theorem collect_keeps_pooled (h : Heap) (i : Nat) (s : Slot)
    (hs : h.slots[i]? = some s) (hp : s.pooled = true) :
    (collect h).slots[i]? = some s := by
  obtain ⟨m, _, hc⟩ := collect_eq_sweep h
  simp [hc, sweep, getElem?_sweepSlots, hs, hp]

theorem collect_length (h : Heap) : (collect h).slots.length = h.slots.length := by
  obtain ⟨m, _, hc⟩ := collect_eq_sweep h
  rw [hc]
  exact List.length_mapIdx

theorem collect_guards (h : Heap) : (collect h).guards = h.guards := by
  obtain ⟨m, _, hc⟩ := collect_eq_sweep h
  rw [hc]; rfl

theorem collect_alive (h : Heap) : (collect h).alive = h.alive := by
  obtain ⟨m, _, hc⟩ := collect_eq_sweep h
  rw [hc]; rfl

/-- after a collection a slot is non-pooled iff it was reachable from a live guard. -/
theorem collect_exact (h : Heap) (i : Nat) :
    pooledAt (collect h) i = false ↔ Reach h i := by
  obtain ⟨m, hm, hc⟩ := collect_eq_sweep h
  rw [hc, pooledAt_sweep, Bool.or_eq_false_iff, Bool.not_eq_false', List.contains_iff_mem, hm]
  exact ⟨And.right, fun hr => ⟨reach_not_pooled h i hr, hr⟩⟩

/-- the free list is exactly the set of pooled slots, without duplicates. -/
def Inv (h : Heap) : Prop :=
  h.alive = true →
    h.free.Nodup ∧ ∀ i, i ∈ h.free ↔ ∃ s, h.slots[i]? = some s ∧ s.pooled = true

theorem inv_init : Inv Heap.init := by
  intro _
  simp [Heap.init]

/-- the invariant in terms of `pooledAt`, which counts an index outside the arena as pooled. -/
theorem inv_iff (h : Heap) : Inv h ↔ (h.alive = true →
    h.free.Nodup ∧ ∀ i, i ∈ h.free ↔ i < h.slots.length ∧ pooledAt h i = true) := by
  have (i : Nat) : (∃ s, h.slots[i]? = some s ∧ s.pooled = true) ↔
      i < h.slots.length ∧ pooledAt h i = true := by
    unfold pooledAt
    cases hs : h.slots[i]? with
    | none => simpa using List.getElem?_eq_none_iff.mp hs
    | some s => simp [(List.getElem?_eq_some_iff.mp hs).1]
  simp only [Inv, this]

theorem inv_collect (h : Heap) (hi : Inv h) : Inv (collect h) := by
  obtain ⟨m, _, hc⟩ := collect_eq_sweep h
  rw [inv_iff] at hi ⊢
  rw [hc]
  intro ha
  obtain ⟨hnd, hiff⟩ := hi ha
  constructor
  · -- what was on the free list was pooled, what the sweep adds was not
    refine List.nodup_append.mpr ⟨hnd, nodup_filter_range _ _, ?_⟩
    rintro a ha1 _ hb1 rfl
    have hp := ((hiff a).mp ha1).2
    rw [((mem_sweptIdx h m a).mp hb1).1] at hp
    cases hp
  · intro i
    have hlen : (sweep h m).slots.length = h.slots.length := List.length_mapIdx
    show i ∈ h.free ++ sweptIdx h.slots m ↔ _
    rw [List.mem_append, hiff, mem_sweptIdx, pooledAt_sweep, hlen]
    cases hp : pooledAt h i
    · simpa using fun _ => lt_of_not_pooled hp
    · simp

end TsrunVerif.Heap
