import TsrunVerif.Model.Heap

/-! Soundness, completeness and termination of the explicit-stack marker: one rule for the loop,
one invariant, one measure. -/
namespace TsrunVerif.Heap

/-- reachability from the roots of live guards through links to non-pooled slots. -/
inductive Reach (h : Heap) : Nat → Prop
  | root {i} : i ∈ rootsOf h → Reach h i
  | step {i j} : Reach h i → j ∈ succs h i → Reach h j

theorem pooledAt_false_iff (h : Heap) (i : Nat) :
    pooledAt h i = false ↔ ∃ s, h.slots[i]? = some s ∧ s.pooled = false := by
  unfold pooledAt
  cases h.slots[i]? <;> simp

theorem lt_of_not_pooled {h : Heap} {i : Nat} (hp : pooledAt h i = false) : i < h.slots.length :=
  have ⟨_, hs, _⟩ := (pooledAt_false_iff h i).mp hp
  (List.getElem?_eq_some_iff.mp hs).1

theorem mem_rootsOf (h : Heap) (i : Nat) :
    i ∈ rootsOf h ↔ (∃ g ∈ h.guards, g.alive = true ∧ i ∈ g.roots) ∧ pooledAt h i = false := by
  simp only [rootsOf, List.mem_filter, List.mem_flatMap, Bool.not_eq_eq_eq_not, Bool.not_true]
  exact and_congr_left fun _ => exists_congr fun g => and_assoc

theorem mem_succs (h : Heap) (i j : Nat) :
    j ∈ succs h i ↔ ∃ s, h.slots[i]? = some s ∧ j ∈ s.links ∧ pooledAt h j = false := by
  unfold succs
  cases h.slots[i]? <;> simp

theorem reach_not_pooled (h : Heap) (i : Nat) (hr : Reach h i) : pooledAt h i = false := by
  cases hr with
  | root hi => exact ((mem_rootsOf h i).mp hi).2
  | step _ hj => exact have ⟨_, _, _, hp⟩ := (mem_succs h _ i).mp hj; hp

/-- reachability only grows with the roots and with the successors of reachable slots -/
theorem Reach.mono {h h' : Heap} {i : Nat} (hr : Reach h i) (hroot : ∀ r ∈ rootsOf h, r ∈ rootsOf h')
    (hsucc : ∀ a, Reach h a → ∀ b ∈ succs h a, b ∈ succs h' a) : Reach h' i := by
  induction hr with
  | root hi => exact .root (hroot _ hi)
  | step hra hb ih => exact .step ih (hsucc _ hra _ hb)

/-- Hoare rule for the loop of `Space::mark`: a property of (stack, marked) that both kinds of
iteration keep holds of the result, with the stack empty. -/
theorem markLoop_rule (h : Heap) (P : List Nat → List Nat → Prop)
    (skip : ∀ a t m, a ∈ m → P (a :: t) m → P t m)
    (visit : ∀ a t m, a ∉ m → P (a :: t) m →
      P ((succs h a).filter (fun j => !(m.contains j)) ++ t) (a :: m))
    (fuel : Nat) (stack marked r : List Nat) (hP : P stack marked)
    (hr : markLoop h fuel stack marked = some r) : P [] r := by
  -- the clauses of `markLoop`: no fuel and nothing to do, no fuel, nothing to do, top entry marked, top entry unmarked
  fun_induction markLoop h fuel stack marked with
  | case1 | case3 => cases hr; exact hP
  | case2 => cases hr
  | case4 _ a t m ha ih => exact ih (skip a t m ha hP) hr
  | case5 _ a t m ha ih => exact ih (visit a t m ha hP) hr

/-- the tri-colour invariant: grey and black nodes are reachable, and every root and every
successor of a black node is black or grey. -/
def MarkInv (h : Heap) (stack marked : List Nat) : Prop :=
  (∀ i, i ∈ marked ∨ i ∈ stack → Reach h i) ∧
  (∀ i ∈ rootsOf h, i ∈ marked ∨ i ∈ stack) ∧
  ∀ i ∈ marked, ∀ j ∈ succs h i, j ∈ marked ∨ j ∈ stack

theorem markInv_skip (h : Heap) (a : Nat) (t m : List Nat) (ha : a ∈ m)
    (hi : MarkInv h (a :: t) m) : MarkInv h t m := by
  have drop : ∀ j, j ∈ m ∨ j ∈ a :: t → j ∈ m ∨ j ∈ t := by
    rintro j (hj | hj)
    · exact .inl hj
    · rcases List.mem_cons.mp hj with rfl | hj
      · exact .inl ha
      · exact .inr hj
  exact ⟨fun i hi' => hi.1 i (hi'.imp_right (List.mem_cons_of_mem a)),
    fun i hr => drop i (hi.2.1 i hr), fun i him j hj => drop j (hi.2.2 i him j hj)⟩

theorem markInv_visit (h : Heap) (a : Nat) (t m : List Nat)
    (hi : MarkInv h (a :: t) m) :
    MarkInv h ((succs h a).filter (fun j => !(m.contains j)) ++ t) (a :: m) := by
  have ra : Reach h a := hi.1 a (.inr List.mem_cons_self)
  -- what was black or grey still is
  have keep : ∀ j, j ∈ m ∨ j ∈ a :: t →
      j ∈ a :: m ∨ j ∈ (succs h a).filter (fun j => !(m.contains j)) ++ t := by
    rintro j (hj | hj)
    · exact .inl (List.mem_cons_of_mem a hj)
    · rcases List.mem_cons.mp hj with rfl | hj
      · exact .inl List.mem_cons_self
      · exact .inr (List.mem_append_right _ hj)
  refine ⟨?_, fun i hr => keep i (hi.2.1 i hr), ?_⟩
  · rintro i (hi' | hi')
    · rcases List.mem_cons.mp hi' with rfl | hi'
      · exact ra
      · exact hi.1 i (.inl hi')
    · rcases List.mem_append.mp hi' with hi' | hi'
      · exact .step ra (List.mem_filter.mp hi').1
      · exact hi.1 i (.inr (List.mem_cons_of_mem a hi'))
  · intro i him j hj
    rcases List.mem_cons.mp him with rfl | him
    · by_cases hjm : j ∈ m
      · exact .inl (List.mem_cons_of_mem i hjm)
      · exact .inr (List.mem_append_left _ (List.mem_filter.mpr ⟨hj, by simpa using hjm⟩))
    · exact keep j (hi.2.2 i him j hj)

theorem mark_exact (h : Heap) (m : List Nat) (hm : mark h = some m) (i : Nat) :
    i ∈ m ↔ Reach h i := by
  have ⟨hs, hroot, hclosed⟩ : MarkInv h [] m :=
    markLoop_rule h (MarkInv h) (markInv_skip h) (fun a t m _ => markInv_visit h a t m) _ _ _ m
      ⟨fun i hi => .root (hi.resolve_left List.not_mem_nil), fun i hi => .inr hi,
        fun i hi => absurd hi List.not_mem_nil⟩ hm
  refine ⟨fun hi => hs i (.inl hi), fun hr => ?_⟩
  induction hr with
  | root hi => exact (hroot _ hi).resolve_right List.not_mem_nil
  | step _ hj ih => exact (hclosed _ ih _ hj).resolve_right List.not_mem_nil

theorem mark_sound (h : Heap) (m : List Nat) (hm : mark h = some m) :
    ∀ i ∈ m, Reach h i :=
  fun i => (mark_exact h m hm i).mp

theorem mark_complete (h : Heap) (m : List Nat) (hm : mark h = some m) :
    ∀ i, Reach h i → i ∈ m :=
  fun i => (mark_exact h m hm i).mpr

theorem nodup_filter_range (n : Nat) (p : Nat → Bool) : ((List.range n).filter p).Nodup :=
  List.nodup_range.sublist List.filter_sublist

theorem succs_length_le (h : Heap) (i : Nat) : (succs h i).length ≤ outdeg h i := by
  unfold succs outdeg
  split
  · exact List.length_filter_le _ _
  · exact Nat.le_refl _

theorem weight_cons (h : Heap) (marked : List Nat) (a : Nat) (ha : a < h.slots.length) (ham : a ∉ marked) :
    weight h (a :: marked) + (outdeg h a + 1) = weight h marked := by
  -- the unmarked indices are, up to order, `a` and the indices unmarked once `a` is marked
  have hmem : a ∈ (List.range h.slots.length).filter (fun i => !(marked.contains i)) :=
    List.mem_filter.mpr ⟨List.mem_range.mpr ha, by simpa using ham⟩
  have hperm := List.perm_cons_erase hmem
  rw [(nodup_filter_range _ _).erase_eq_filter, List.filter_filter] at hperm
  have hrest : (List.range h.slots.length).filter (fun i => !((a :: marked).contains i)) =
      (List.range h.slots.length).filter (fun i => i != a && !(marked.contains i)) :=
    List.filter_congr fun i _ => by simp only [List.contains_cons, Bool.not_or, bne]
  unfold weight
  rw [hrest, (hperm.map _).sum_nat, List.map_cons, List.sum_cons, Nat.add_comm]

/-- `markFuel` is enough.  The measure is `stack.length + weight h marked`: a skipped entry leaves
the stack, a visited one leaves the unmarked set, which pays for the successors it pushes. -/
theorem markLoop_terminates (h : Heap) (fuel : Nat) (stack marked : List Nat)
    (hf : stack.length + weight h marked ≤ fuel) (hlt : ∀ i ∈ stack, i < h.slots.length) :
    (markLoop h fuel stack marked).isSome := by
  fun_induction markLoop h fuel stack marked with
  | case1 | case3 => rfl
  | case2 => simp at hf
  | case4 _ a t m _ ih =>
    exact ih (by simp at hf; omega) fun i hi => hlt i (List.mem_cons_of_mem a hi)
  | case5 _ a t m ha ih =>
    have hw := weight_cons h m a (hlt a List.mem_cons_self) ha
    have hl := Nat.le_trans (List.length_filter_le (fun j => !(m.contains j)) (succs h a))
      (succs_length_le h a)
    refine ih (by simp only [List.length_append, List.length_cons] at hf ⊢; omega) fun i hi => ?_
    rcases List.mem_append.mp hi with hi | hi
    · have ⟨_, _, _, hp⟩ := (mem_succs h a i).mp (List.mem_filter.mp hi).1
      exact lt_of_not_pooled hp
    · exact hlt i (List.mem_cons_of_mem a hi)

theorem mark_terminates (h : Heap) : (mark h).isSome :=
  markLoop_terminates h _ _ _ (by unfold markFuel; omega)
    fun i hi => lt_of_not_pooled ((mem_rootsOf h i).mp hi).2

end TsrunVerif.Heap
