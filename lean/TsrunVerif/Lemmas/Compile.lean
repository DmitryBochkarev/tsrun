import TsrunVerif.Lemmas.CompileInv

/-!
Lemmas for M-Compile: the code embedding relation, VM step sequences, and the simulation of the
reference semantics by the code `codeE` / `codeS` describe.

The simulation is stated once, for a result of either kind: `Mirrors … o` says what the VM does when the
reference semantics yields `o` (arrive at the end of the code with the value, or arrive at an instruction
that raises the same error; nothing when the fuel ran out).  The evaluators are read as sequences
(`bindR`), and each instruction has one lemma that extends a `Mirrors` by it.
-/

namespace TsrunVerif.Compile

/-- `body` sits in `C` at offset `base` -/
def Embeds (C : List Op) (base : Nat) (body : List Op) : Prop :=
  ∀ i, i < body.length → C[base + i]? = body[i]?

namespace Embeds

theorem left {C : List Op} {base : Nat} {x y : List Op} (h : Embeds C base (x ++ y)) : Embeds C base x := by
  intro i hi
  have := h i (List.length_append ▸ Nat.lt_add_right _ hi)
  rw [this, List.getElem?_append_left hi]

theorem right {C : List Op} {base : Nat} {x y : List Op} (h : Embeds C base (x ++ y)) :
    Embeds C (base + x.length) y := by
  intro i hi
  have := h (x.length + i) (List.length_append ▸ Nat.add_lt_add_left hi _)
  rw [Nat.add_assoc, this, List.getElem?_append_right (Nat.le_add_right ..), Nat.add_sub_cancel_left]

theorem get {C : List Op} {base : Nat} {body : List Op} (h : Embeds C base body) (i : Nat) {op : Op}
    (hi : body[i]? = some op) : C[base + i]? = some op := by
  rw [h i (List.getElem?_eq_some_iff.mp hi).1, hi]

theorem head {C : List Op} {base : Nat} {op : Op} {y : List Op} (h : Embeds C base (op :: y)) :
    C[base]? = some op :=
  h.get 0 rfl

theorem tail {C : List Op} {base : Nat} {op : Op} {y : List Op} (h : Embeds C base (op :: y)) :
    Embeds C (base + 1) y :=
  right (x := [op]) h

theorem self (pre body post : List Op) : Embeds (pre ++ body ++ post) pre.length body := by
  intro i hi
  rw [List.append_assoc, List.getElem?_append_right (Nat.le_add_right ..), Nat.add_sub_cancel_left,
    List.getElem?_append_left hi]

theorem init (body post : List Op) : Embeds (body ++ post) 0 body := by
  simpa using self [] body post

end Embeds

section
variable {V Err : Type} (sem : Sem V Err)

/-- a sequence of ordinary (non-throwing, non-halting) instructions -/
inductive Steps (C : List Op) : St V → St V → Prop where
  | refl (s : St V) : Steps C s s
  | cons {s s' s'' : St V} : step sem C s = .next s' → Steps C s' s'' → Steps C s s''

theorem Steps.trans {C : List Op} {a b c : St V} (h₁ : Steps sem C a b) (h₂ : Steps sem C b c) : Steps sem C a c := by
  induction h₁ with
  | refl => exact h₂
  | cons hs _ ih => exact .cons hs (ih h₂)

/-- what the simulation needs of "runs to"; `Steps` provides it, and so does `StepsH` (with handler dispatch) -/
class RunRel (C : List Op) (R : St V → St V → Prop) : Prop where
  refl (s : St V) : R s s
  trans {a b c : St V} : R a b → R b c → R a c
  next {a b : St V} : step sem C a = .next b → R a b

instance (C : List Op) : RunRel sem C (Steps sem C) := ⟨.refl, Steps.trans sem, fun h => .cons h (.refl _)⟩

theorem step_at {C : List Op} {pc : Nat} {op : Op} (h : C[pc]? = some op) (regs : Reg → V) (env : Env V) (H : List Nat) :
    step sem C ⟨pc, regs, env, H⟩ = exec1 sem op ⟨pc, regs, env, H⟩ := by
  simp [step, h]

@[simp] theorem setReg_same (regs : Reg → V) (r : Reg) (v : V) : setReg regs r v r = v := by simp [setReg]
theorem setReg_other (regs : Reg → V) {r r' : Nat} (v : V) (h : r' ≠ r) : setReg regs r v r' = regs r' := by
  simp [setReg, h]

/-- `o`, then `f` on its value: a throw, or running out of fuel, ends the sequence -/
def bindR {α β : Type} (o : Option (Res V Err α)) (f : α → Env V → Option (Res V Err β)) : Option (Res V Err β) :=
  match o with
  | some (.ok a env) => f a env
  | some (.thrown e env) => some (.thrown e env)
  | none => none

@[simp] theorem bindR_ok {α β : Type} (a : α) (env : Env V) (f : α → Env V → Option (Res V Err β)) :
    bindR (some (.ok a env)) f = f a env := rfl

@[simp] theorem bindR_thrown {α β : Type} (e : Err) (env : Env V) (f : α → Env V → Option (Res V Err β)) :
    bindR (some (.thrown e env)) f = some (.thrown e env) := rfl

@[simp] theorem bindR_pure {α : Type} (o : Option (Res V Err α)) : (bindR o fun a env => some (.ok a env)) = o := by
  rcases o with _ | _ | _ <;> rfl

/-! `evalE` read as a sequence, construct by construct.  (`whnf` unfolds `evalE` on a constructor directly;
`rw [evalE]` would generate `evalE`'s equation lemmas anew in every one of these proofs, which is slow to check.) -/

theorem evalE_var (x : String) (env : Env V) :
    some (evalE sem (.var x) env) = bindR (some (getVar sem env x)) fun a env => some (.ok a env) := by
  rw [bindR_pure]; rfl

theorem evalE_typeof {op : UnOp} {e : Expr} {x : String} (hq : typeofVar? op e = some x) (env : Env V) :
    some (evalE sem (.un op e) env) =
      bindR (some (liftE env (sem.un op ((env.get x).getD (sem.lit .undef))))) fun w env => some (.ok w env) := by
  conv => lhs; arg 1; whnf
  rw [bindR_pure, hq]

theorem evalE_un {op : UnOp} {e : Expr} (hq : typeofVar? op e = none) (env : Env V) :
    some (evalE sem (.un op e) env) = bindR (some (evalE sem e env)) fun v env =>
      bindR (some (liftE env (sem.un op v))) fun w env => some (.ok w env) := by
  conv => lhs; arg 1; whnf
  rw [hq]
  cases evalE sem e env <;> simp only [bindR_ok, bindR_thrown, bindR_pure]

theorem evalE_bin (op : BinOp) (l r : Expr) (env : Env V) :
    some (evalE sem (.bin op l r) env) = bindR (some (evalE sem l env)) fun a env =>
      bindR (some (evalE sem r env)) fun c env => bindR (some (liftE env (sem.bin op a c))) fun w env => some (.ok w env) := by
  conv => lhs; arg 1; whnf
  cases evalE sem l env <;> simp only [bindR_ok, bindR_thrown, bindR_pure]
  cases evalE sem r _ <;> rfl

theorem evalE_log (op : LogOp) (l r : Expr) (env : Env V) :
    some (evalE sem (.log op l r) env) = bindR (some (evalE sem l env)) fun a env =>
      if skips sem op a then some (.ok a env) else some (evalE sem r env) := by
  conv => lhs; arg 1; whnf
  cases evalE sem l env <;> simp only [bindR_ok, bindR_thrown]
  split <;> rfl

theorem evalE_cond (c t f : Expr) (env : Env V) :
    some (evalE sem (.cond c t f) env) = bindR (some (evalE sem c env)) fun a env =>
      if sem.truthy a then some (evalE sem t env) else some (evalE sem f env) := by
  conv => lhs; arg 1; whnf
  cases evalE sem c env <;> simp only [bindR_ok, bindR_thrown]
  split <;> rfl

theorem evalE_assign (x : String) (e : Expr) (env : Env V) :
    some (evalE sem (.asg x .assign e) env) = bindR (some (evalE sem e env)) fun v env =>
      bindR (some (setVar sem env x v)) fun w env => some (.ok w env) := by
  conv => lhs; arg 1; whnf
  cases evalE sem e env <;> simp only [bindR_ok, bindR_thrown, bindR_pure]

theorem evalE_asgBin (x : String) (op : BinOp) (e : Expr) (env : Env V) :
    some (evalE sem (.asg x (.bin op) e) env) = bindR (some (getVar sem env x)) fun a env =>
      bindR (some (evalE sem e env)) fun c env => bindR (some (liftE env (sem.bin op a c))) fun v env =>
      bindR (some (setVar sem env x v)) fun w env => some (.ok w env) := by
  conv => lhs; arg 1; whnf
  cases getVar sem env x <;> simp only [bindR_ok, bindR_thrown, bindR_pure]
  cases evalE sem e _ <;> simp only [bindR_ok, bindR_thrown, liftE]
  cases sem.bin op _ _ <;> rfl

theorem evalE_asgLog (x : String) (lop : LogOp) (e : Expr) (env : Env V) :
    some (evalE sem (.asg x (.ofLog lop) e) env) = bindR (some (getVar sem env x)) fun a env =>
      if skips sem lop a then bindR (some (setVar sem env x a)) fun w env => some (.ok w env)
      else bindR (some (evalE sem e env)) fun v env => bindR (some (setVar sem env x v)) fun w env => some (.ok w env) := by
  cases lop
  all_goals
    conv => lhs; arg 1; whnf
    cases getVar sem env x with
    | thrown => rfl
    | ok a env₁ =>
      simp only [bindR_ok, bindR_pure]
      split
      · rfl
      · cases evalE sem e env₁ <;> rfl

theorem evalE_seq (a c : Expr) (env : Env V) :
    some (evalE sem (.seq a c) env) = bindR (some (evalE sem a env)) fun _ env => some (evalE sem c env) := by
  conv => lhs; arg 1; whnf
  cases evalE sem a env <;> rfl

theorem evalE_upd (x : String) (inc pre : Bool) (env : Env V) :
    some (evalE sem (.upd x inc pre) env) = bindR (some (getVar sem env x)) fun a env =>
      bindR (some (liftE env (sem.un .plus a))) fun n env =>
      bindR (some (liftE env (sem.bin (if inc then .add else .sub) n (sem.lit (.num 1))))) fun v env =>
      bindR (some (setVar sem env x v)) fun _ env => some (.ok (if pre then v else n) env) := by
  conv => lhs; arg 1; whnf
  cases getVar sem env x <;> simp only [bindR_ok, bindR_thrown, liftE]
  cases sem.un .plus _ <;> simp only [bindR_ok, bindR_thrown]
  cases sem.bin _ _ _ <;> simp only [bindR_ok, bindR_thrown]
  cases setVar sem _ x _ <;> rfl

variable (C : List Op) (R : St V → St V → Prop)

/-- from `s`, the VM does what `o` says: on `ok a env'` it runs to `pc'` with environment `env'` and registers
    that satisfy `Q · a`; on `thrown er env'` it runs to an instruction that raises `er`, with environment
    `env'`; either way the try stack is `H` at the end (the state `s` may start with another one: `pushTry` and
    `popTry` change it, which is why `Mirrors.step` and `.branch` start from a stack `H₀`) -/
def Mirrors {α : Type} (s : St V) (pc' : Nat) (H : List Nat) (Q : (Reg → V) → α → Prop) : Option (Res V Err α) → Prop
  | none => True
  | some (.ok a env') => ∃ regs', R s ⟨pc', regs', env', H⟩ ∧ Q regs' a
  | some (.thrown er env') => ∃ pc regs', R s ⟨pc, regs', env', H⟩ ∧
      step sem C ⟨pc, regs', env', H⟩ = .throw er ⟨pc, regs', env', H⟩

/-- what the code of an expression leaves behind: the value in `dst`, the other registers below `n` as in `regs` -/
abbrev Into (dst n : Nat) (regs : Reg → V) (regs' : Reg → V) (v : V) : Prop :=
  regs' dst = v ∧ ∀ r, r < n → r ≠ dst → regs' r = regs r

namespace Into

theorem setReg {dst n : Nat} {regs regs' : Reg → V} (hk : ∀ r, r < n → r ≠ dst → regs' r = regs r) (v : V) :
    Into dst n regs (setReg regs' dst v) v :=
  ⟨setReg_same .., fun r hr hrd => by rw [setReg_other _ _ hrd, hk r hr hrd]⟩

theorem trans {dst n : Nat} {regs regs₁ regs₂ : Reg → V} {v : V} (h : Into dst n regs₁ regs₂ v)
    (hk : ∀ r, r < n → r ≠ dst → regs₁ r = regs r) : Into dst n regs regs₂ v :=
  ⟨h.1, fun r hr hrd => by rw [h.2 r hr hrd, hk r hr hrd]⟩

/-- a value computed into the fresh register `n` leaves everything below `n` alone -/
theorem tmp {n : Nat} {regs regs' : Reg → V} {v : V} (h : Into n (n + 1) regs regs' v) (r : Nat) (hr : r < n) :
    regs' r = regs r :=
  h.2 r (Nat.lt_succ_of_lt hr) (Nat.ne_of_lt hr)

end Into

variable {C R} [RunRel sem C R] {α β : Type} {s : St V} {pc pc' pc₁ : Nat} {regs : Reg → V} {env : Env V} {H H₀ : List Nat}
  {Q : (Reg → V) → α → Prop}

namespace Mirrors
variable {sem}

theorem after {s₁ : St V} {o : Option (Res V Err α)} (hr : R s s₁) (h : Mirrors sem C R s₁ pc' H Q o) :
    Mirrors sem C R s pc' H Q o :=
  match o, h with
  | none, _ => trivial
  | some (.ok _ _), ⟨regs', h₁, hq⟩ => ⟨regs', RunRel.trans sem C hr h₁, hq⟩
  | some (.thrown _ _), ⟨pc, regs', h₁, ht⟩ => ⟨pc, regs', RunRel.trans sem C hr h₁, ht⟩

theorem bind {o : Option (Res V Err α)} {f : α → Env V → Option (Res V Err β)} {Q₁ : (Reg → V) → α → Prop}
    {Q : (Reg → V) → β → Prop} (h : Mirrors sem C R s pc₁ H Q₁ o)
    (hf : ∀ a env₁ regs₁, Q₁ regs₁ a → Mirrors sem C R ⟨pc₁, regs₁, env₁, H⟩ pc' H Q (f a env₁)) :
    Mirrors sem C R s pc' H Q (bindR o f) :=
  match o, h with
  | none, _ => trivial
  | some (.ok a env₁), ⟨regs₁, h₁, hq⟩ => (hf a env₁ regs₁ hq).after h₁
  | some (.thrown _ _), h => h

/-- `bind` when nothing is evaluated afterwards: more instructions, another postcondition -/
theorem andThen {o : Option (Res V Err α)} {Q₁ : (Reg → V) → α → Prop} (h : Mirrors sem C R s pc₁ H Q₁ o)
    (hf : ∀ a env₁ regs₁, Q₁ regs₁ a → Mirrors sem C R ⟨pc₁, regs₁, env₁, H⟩ pc' H Q (some (.ok a env₁))) :
    Mirrors sem C R s pc' H Q o :=
  bindR_pure o ▸ h.bind hf

theorem ret {a : α} (hpc : pc = pc') (hQ : Q regs a) : Mirrors sem C R ⟨pc, regs, env, H⟩ pc' H Q (some (.ok a env)) :=
  hpc ▸ ⟨regs, RunRel.refl sem C _, hQ⟩

theorem step {op : Op} {s₁ : St V} {o : Option (Res V Err α)} (hop : C[pc]? = some op)
    (he : exec1 sem op ⟨pc, regs, env, H₀⟩ = .next s₁) (h : Mirrors sem C R s₁ pc' H Q o) :
    Mirrors sem C R ⟨pc, regs, env, H₀⟩ pc' H Q o :=
  h.after (RunRel.next (by rw [step_at sem hop, he]))

theorem throw {op : Op} {er : Err} (hop : C[pc]? = some op)
    (he : exec1 sem op ⟨pc, regs, env, H⟩ = .throw er ⟨pc, regs, env, H⟩) :
    Mirrors sem C R ⟨pc, regs, env, H⟩ pc' H Q (some (.thrown er env)) :=
  ⟨pc, regs, RunRel.refl sem C _, by rw [step_at sem hop, he]⟩

theorem getVar {d : Reg} {x : String} {f : V → Env V → Option (Res V Err α)} (hop : C[pc]? = some (.getVar d x))
    (hf : ∀ a, env.get x = some a → Mirrors sem C R ⟨pc + 1, setReg regs d a, env, H⟩ pc' H Q (f a env)) :
    Mirrors sem C R ⟨pc, regs, env, H⟩ pc' H Q (bindR (some (Compile.getVar sem env x)) f) := by
  unfold Compile.getVar
  cases hx : env.get x with
  | none => exact .throw hop (by conv => lhs; whnf; rw [hx])
  | some a => exact .step hop (by conv => lhs; whnf; rw [hx]) (hf a hx)

theorem setVar {src : Reg} {x : String} {v : V} {f : V → Env V → Option (Res V Err α)}
    (hop : C[pc]? = some (.setVar x src)) (hv : regs src = v)
    (hf : ∀ env', env.set x v = some env' → Mirrors sem C R ⟨pc + 1, regs, env', H⟩ pc' H Q (f v env')) :
    Mirrors sem C R ⟨pc, regs, env, H⟩ pc' H Q (bindR (some (Compile.setVar sem env x v)) f) := by
  unfold Compile.setVar
  subst hv
  cases hx : env.set x (regs src) with
  | none => exact .throw hop (by conv => lhs; whnf; rw [hx])
  | some env' => exact .step hop (by conv => lhs; whnf; rw [hx]) (hf env' hx)

theorem un {op : UnOp} {d src : Reg} {a : V} {f : V → Env V → Option (Res V Err α)}
    (hop : C[pc]? = some (.un op d src)) (ha : regs src = a)
    (hf : ∀ w, Mirrors sem C R ⟨pc + 1, setReg regs d w, env, H⟩ pc' H Q (f w env)) :
    Mirrors sem C R ⟨pc, regs, env, H⟩ pc' H Q (bindR (some (liftE env (sem.un op a))) f) := by
  subst ha
  cases hx : sem.un op (regs src) with
  | error er => exact .throw hop (by conv => lhs; whnf; rw [hx])
  | ok w => exact .step hop (by conv => lhs; whnf; rw [hx]) (hf w)

theorem bin {op : BinOp} {d l r : Reg} {a c : V} {f : V → Env V → Option (Res V Err α)}
    (hop : C[pc]? = some (.bin op d l r)) (ha : regs l = a) (hc : regs r = c)
    (hf : ∀ w, Mirrors sem C R ⟨pc + 1, setReg regs d w, env, H⟩ pc' H Q (f w env)) :
    Mirrors sem C R ⟨pc, regs, env, H⟩ pc' H Q (bindR (some (liftE env (sem.bin op a c))) f) := by
  subst ha hc
  cases hx : sem.bin op (regs l) (regs r) with
  | error er => exact .throw hop (by conv => lhs; whnf; rw [hx])
  | ok w => exact .step hop (by conv => lhs; whnf; rw [hx]) (hf w)

/-- a conditional jump mirrors an `if` -/
theorem branch {op : Op} {b : Prop} [Decidable b] {t₁ t₂ : Nat} {o₁ o₂ : Option (Res V Err α)} (hop : C[pc]? = some op)
    (he : exec1 sem op ⟨pc, regs, env, H₀⟩ = .next ⟨if b then t₁ else t₂, regs, env, H₀⟩)
    (h₁ : Mirrors sem C R ⟨t₁, regs, env, H₀⟩ pc' H Q o₁) (h₂ : Mirrors sem C R ⟨t₂, regs, env, H₀⟩ pc' H Q o₂) :
    Mirrors sem C R ⟨pc, regs, env, H₀⟩ pc' H Q (if b then o₁ else o₂) := by
  split <;> rename_i h
  · exact .step hop (he.trans (by rw [if_pos h])) h₁
  · exact .step hop (he.trans (by rw [if_neg h])) h₂

end Mirrors

theorem exec_lit (dst : Reg) (l : Lit) (s : St V) :
    exec1 sem (litOp dst l) s = .next { s with pc := s.pc + 1, regs := setReg s.regs dst (sem.lit l) } := by
  cases l with
  | num z => show exec1 sem (if _ then _ else _) s = _; split <;> rfl
  | _ => rfl

theorem exec_skip (op : LogOp) (c : Reg) (t pc : Nat) (regs : Reg → V) (env : Env V) (H : List Nat) :
    exec1 sem (retarget (skipOp op c) t) ⟨pc, regs, env, H⟩ = .next ⟨if skips sem op (regs c) then t else pc + 1, regs, env, H⟩ := by
  cases op <;> (conv => lhs; whnf) <;> unfold skips
  · generalize sem.truthy (regs c) = b; cases b <;> rfl
  · generalize sem.truthy (regs c) = b; cases b <;> rfl
  · generalize sem.nullish (regs c) = b; cases b <;> rfl

/-- for the plain VM and for the one with handler dispatch alike.  By induction over the emitted code: every case
    reads `evalE` as a sequence (`evalE_bin` …) and follows it instruction by instruction. -/
theorem codeE_sim : ∀ (e : Expr) (dst n base : Nat) (body : List Op), codeE e dst n base = some body → dst < n →
    Embeds C base body → ∀ regs env H,
      Mirrors sem C R ⟨base, regs, env, H⟩ (base + body.length) H (Into dst n regs) (some (evalE sem e env)) := by
  apply codeE_induct
  case lit =>
    intro l dst n base hd emb regs env H
    exact .step emb.head (exec_lit ..) (.ret rfl (.setReg (fun _ _ _ => rfl) _))
  case var =>
    intro x dst n base hd emb regs env H
    rw [evalE_var]
    exact .getVar emb.head fun a _ => .ret rfl (.setReg (fun _ _ _ => rfl) _)
  case typeof =>
    intro op e x dst n base hn hq hd emb regs env H
    rw [evalE_typeof sem hq]
    refine .step emb.head rfl (.un (emb.get 1 rfl) (setReg_same ..) fun w => ?_)
    exact .ret rfl (.setReg (fun r hr _ => setReg_other regs _ (Nat.ne_of_lt hr)) w)
  case un =>
    intro op e dst n base be hn hq he ih hd emb regs env H
    rw [evalE_un sem hq]
    refine .bind (ih n.lt_succ_self emb.left regs env H) fun v env₁ regs₁ h₁ => ?_
    exact .un emb.right.head h₁.1 fun w => .ret (by simp +arith) (.setReg (fun r hr _ => h₁.tmp r hr) w)
  case bin =>
    intro op l r dst n base bl br hn hn1 hl hr ihl ihr hd emb regs env H
    rw [List.append_assoc] at emb
    rw [evalE_bin]
    refine .bind (ihl n.lt_succ_self emb.left regs env H) fun a env₁ regs₁ h₁ => ?_
    refine .bind (ihr (n + 1).lt_succ_self emb.right.left regs₁ env₁ H) fun c env₂ regs₂ h₂ => ?_
    refine .bin emb.right.right.head ((h₂.tmp n n.lt_succ_self).trans h₁.1) h₂.1 fun w => ?_
    exact .ret (by simp +arith) (.setReg (fun r hr _ => (h₂.tmp r (Nat.lt_succ_of_lt hr)).trans (h₁.tmp r hr)) w)
  case log =>
    intro op l r dst n base bl br hl hr ihl ihr hd emb regs env H
    rw [evalE_log]
    refine .bind (ihl hd emb.left regs env H) fun _ env₁ regs₁ ⟨rfl, hk₁⟩ => ?_
    refine .branch emb.right.head (exec_skip ..) (.ret (by simp +arith) ⟨rfl, hk₁⟩) ?_
    exact (ihr hd emb.right.tail regs₁ env₁ H).andThen fun v env₂ regs₂ h => .ret (by simp +arith) (h.trans hk₁)
  case cond =>
    intro c t f dst n base bc bt bf hn hc ht hf ihc iht ihf hd emb regs env H
    rw [evalE_cond]
    refine .bind (ihc n.lt_succ_self emb.left regs env H) fun _ env₁ regs₁ h₁ => ?_
    have hk : ∀ r, r < n → r ≠ dst → regs₁ r = regs r := fun r hr _ => h₁.tmp r hr
    obtain ⟨rfl, _⟩ := h₁
    refine .branch emb.right.head rfl ?_ ?_
    · refine (iht hd emb.right.tail.left regs₁ env₁ H).andThen fun v env₂ regs₂ h => ?_
      exact .step emb.right.tail.right.head rfl (.ret (by simp +arith) (h.trans hk))
    · exact (ihf hd emb.right.tail.right.tail regs₁ env₁ H).andThen fun v env₂ regs₂ h =>
        .ret (by simp +arith) (h.trans hk)
  case assign =>
    intro x e dst n base be he ih hd emb regs env H
    rw [evalE_assign]
    refine .bind (ih hd emb.left regs env H) fun v env₁ regs₁ h₁ => ?_
    exact .setVar emb.right.head h₁.1 fun _ _ => .ret (by simp +arith) h₁
  case asgBin =>
    intro x op e dst n base be hn he ih hd emb regs env H
    rw [evalE_asgBin]
    refine .getVar emb.head fun a _ => ?_
    refine .bind (ih n.lt_succ_self emb.tail.left _ env H) fun c env₁ regs₁ h₁ => ?_
    refine .bin emb.tail.right.head ((h₁.tmp dst hd).trans (setReg_same ..)) h₁.1 fun w => ?_
    refine .setVar emb.tail.right.tail.head (setReg_same ..) fun _ _ => .ret (by simp +arith) ?_
    exact .setReg (fun r hr hrd => (h₁.tmp r hr).trans (setReg_other _ _ hrd)) w
  case asgLog =>
    intro x lop e dst n base be he ih hd emb regs env H
    have hset : C[base + 2 + be.length]? = some (.setVar x dst) := emb.tail.tail.right.head
    rw [evalE_asgLog]
    refine .getVar emb.head fun a _ => .branch emb.tail.head (by rw [exec_skip, setReg_same]) ?_ ?_
    · exact .setVar hset (setReg_same ..) fun _ _ => .ret (by simp +arith) (.setReg (fun _ _ _ => rfl) a)
    · refine .bind (ih hd emb.tail.tail.left _ env H) fun v env₁ regs₁ h₁ => ?_
      exact .setVar hset h₁.1 fun _ _ => .ret (by simp +arith) (h₁.trans fun r _ hrd => setReg_other _ _ hrd)
  case seq =>
    intro a c dst n base ba bc hn ha hc iha ihc hd emb regs env H
    rw [evalE_seq]
    refine .bind (iha n.lt_succ_self emb.left regs env H) fun _ env₁ regs₁ h₁ => ?_
    exact (ihc hd emb.right regs₁ env₁ H).andThen fun v env₂ regs₂ h =>
      .ret (by simp +arith) (h.trans fun r hr _ => h₁.tmp r hr)
  case updPost =>
    intro x inc dst n base hn hn1 hd emb regs env H
    have hnd : n ≠ dst := Nat.ne_of_gt hd
    have hnd1 : n + 1 ≠ dst := Nat.ne_of_gt (Nat.lt_succ_of_lt hd)
    rw [evalE_upd]
    refine .getVar emb.head fun a _ => .un (emb.get 1 rfl) (setReg_same ..) fun m => ?_
    refine .step (emb.get 2 rfl) rfl (.step (emb.get 3 rfl) rfl ?_)
    refine .bin (emb.get 4 rfl) (by simp [setReg, Ne.symm hnd, Ne.symm hnd1]) (setReg_same ..) fun w => ?_
    refine .setVar (emb.get 5 rfl) (setReg_same ..) fun _ _ => .step (emb.get 6 rfl) rfl (.ret rfl ?_)
    exact ⟨by simp [setReg, hnd], fun r hr hrd => by
      simp [setReg, hrd, Nat.ne_of_lt hr, Nat.ne_of_lt (Nat.lt_succ_of_lt hr)]⟩
  case updPre =>
    intro x inc dst n base hn hd emb regs env H
    have hnd : n ≠ dst := Nat.ne_of_gt hd
    rw [evalE_upd]
    refine .getVar emb.head fun a _ => .un (emb.get 1 rfl) (setReg_same ..) fun m => ?_
    refine .step (emb.get 2 rfl) rfl ?_
    refine .bin (emb.get 3 rfl) (by simp [setReg, Ne.symm hnd]) (setReg_same ..) fun w => ?_
    refine .setVar (emb.get 4 rfl) (setReg_same ..) fun _ _ => .ret rfl ?_
    exact ⟨setReg_same .., fun r hr hrd => by simp [setReg, hrd, Nat.ne_of_lt hr]⟩

/-- the VM reaches the end of the code with the value in `dst`, the registers below `n` intact -/
def Done (C : List Op) (base len : Nat) (dst n : Nat) (regs : Reg → V) (env : Env V) (H : List Nat) (v : V) (env' : Env V) : Prop :=
  ∃ regs', Steps sem C ⟨base, regs, env, H⟩ ⟨base + len, regs', env', H⟩ ∧ regs' dst = v ∧
    ∀ r, r < n → r ≠ dst → regs' r = regs r

/-- the VM reaches an instruction that throws `er`, with environment `env'` -/
def Throws (C : List Op) (base : Nat) (regs : Reg → V) (env : Env V) (H : List Nat) (er : Err) (env' : Env V) : Prop :=
  ∃ pc regs', Steps sem C ⟨base, regs, env, H⟩ ⟨pc, regs', env', H⟩ ∧
    step sem C ⟨pc, regs', env', H⟩ = .throw er ⟨pc, regs', env', H⟩

/-- the code at `base` simulates the evaluation of `e` into `dst` -/
def ExprOK (C : List Op) (base len : Nat) (e : Expr) (dst n : Nat) : Prop :=
  ∀ (regs : Reg → V) (env : Env V) (H : List Nat),
    (∀ v env', evalE sem e env = .ok v env' → Done sem C base len dst n regs env H v env') ∧
    (∀ er env', evalE sem e env = .thrown er env' → Throws sem C base regs env H er env')

theorem codeE_ok : ∀ (e : Expr) (dst n base : Nat) (body : List Op), codeE e dst n base = some body → dst < n →
    ∀ C, Embeds C base body → ExprOK sem C base body.length e dst n := by
  intro e dst n base body hc hd C emb regs env H
  have h := codeE_sim sem (R := Steps sem C) e dst n base body hc hd emb regs env H
  exact ⟨fun v env' hv => by rw [hv] at h; exact h, fun er env' hv => by rw [hv] at h; exact h⟩

end
end TsrunVerif.Compile
