import TsrunVerif.Model.Emit
/-! Lemmas for M-Emit: reading an object after writes, the lowering against the emit, the simulation
between tsrun's alias scope and tsc's name resolution. -/
namespace TsrunVerif.Emit

theorem Obj.get_set (o : Obj) (k k' : Key) (v : EVal) :
    (o.set k v).get k' = if k = k' then some v else o.get k' := by
  induction o with
  | nil => rfl
  | cons p rest ih =>
    by_cases h : p.1 = k <;> by_cases h2 : k = k' <;> simp_all [Obj.set, Obj.get]

/-- the number tsc's constant tracking keeps of a member's value -/
def numOf : EVal → Option Int
  | .num n => some n
  | .str _ => none

/-- tsrun's value register holds the previous member's value `prev` itself, tsc tracks its number -/
theorem lower_emit_gen (ms : List Member) : ∀ (prev : Option EVal) (o : Obj), wellFormedFrom prev ms = true →
    (ms.foldl lowerStep (o, prev)).1 = (ms.foldl emitStep (o, prev.bind numOf)).1 := by
  induction ms with
  | nil => intros; rfl
  | cons m ms ih =>
    intro prev o hw
    simp only [List.foldl_cons, lowerStep, emitStep]
    cases hinit : m.init with
    | val v =>
      simp only [wellFormedFrom, hinit] at hw
      cases v <;> exact ih _ _ hw
    | auto =>
      -- the two steps differ only on `auto` after a string value, which well-formedness excludes (`hw` is then
      -- `false = true`, so that case of `prev` is absent below)
      simp only [wellFormedFrom, hinit] at hw
      match prev, hw with
      | none, hw => exact ih _ _ hw
      | some (.num n), hw => exact ih _ _ hw

/-- evaluated members: what tsc's constant evaluation assigns -/
def vals (prev : Option Int) : List Member → List (String × EVal)
  | [] => []
  | m :: ms =>
    let v : EVal := match m.init with
      | .val v => v
      | .auto => match prev with
        | some n => .num (n + 1)
        | none => .num 0
    (m.name, v) :: vals (match v with | .num n => some n | .str _ => none) ms

def write (o : Obj) (p : String × EVal) : Obj :=
  match p.2 with
  | .num n => (o.set (.name p.1) (.num n)).set (.idx n) (.str p.1)
  | .str s => o.set (.name p.1) (.str s)

theorem emit_fold_vals (ms : List Member) : ∀ (o : Obj) (prev : Option Int),
    (ms.foldl emitStep (o, prev)).1 = (vals prev ms).foldl write o := by
  induction ms with
  | nil => intros; rfl
  | cons m ms ih =>
    intro o prev
    simp only [List.foldl_cons, vals, emitStep]
    cases m.init with
    | val v => cases v <;> exact ih _ _
    | auto => cases prev <;> exact ih _ _

theorem write_get_name (o : Obj) (p : String × EVal) (x : String) :
    (write o p).get (.name x) = if p.1 = x then some p.2 else o.get (.name x) := by
  obtain ⟨nm, v⟩ := p
  cases v <;> simp [write, Obj.get_set]

theorem write_get_idx (o : Obj) (p : String × EVal) (n : Int) :
    (write o p).get (.idx n) = if p.2 = .num n then some (.str p.1) else o.get (.idx n) := by
  obtain ⟨nm, v⟩ := p
  cases v <;> simp [write, Obj.get_set]

/-- the last pair satisfying `q`, if any -/
def lastWith (q : String × EVal → Bool) : List (String × EVal) → Option (String × EVal)
  | [] => none
  | p :: ps => match lastWith q ps with
    | some r => some r
    | none => if q p then some p else none

/-- reading after a run of writes: the last pair that writes the key decides; `rd` is what one
    write does to the key (`write_get_name`, `write_get_idx`) -/
theorem foldl_write_get (k : Key) (q : String × EVal → Bool) (r : String × EVal → EVal)
    (rd : ∀ o p, (write o p).get k = if q p then some (r p) else o.get k) (ps : List (String × EVal)) :
    ∀ o : Obj, (ps.foldl write o).get k =
      match lastWith q ps with
      | some p => some (r p)
      | none => o.get k := by
  induction ps with
  | nil => intro o; rfl
  | cons p ps ih =>
    intro o
    rw [List.foldl_cons, ih, lastWith]
    cases lastWith q ps with
    | some _ => rfl
    | none => rw [rd]; cases q p <;> rfl

theorem lastWith_of_tail {q : String × EVal → Bool} {p r : String × EVal} {ps : List (String × EVal)}
    (h : lastWith q ps = some r) : lastWith q (p :: ps) = some r := by
  rw [lastWith, h]

/-- members in front do not matter when what follows decides the lookup whatever value precedes it -/
theorem lastWith_vals_append {q : String × EVal → Bool} {r : String × EVal} {ms : List Member}
    (h : ∀ prev, lastWith q (vals prev ms) = some r) :
    ∀ (pre : List Member) (prev : Option Int), lastWith q (vals prev (pre ++ ms)) = some r
  | [], prev => h prev
  | _ :: pre, _ => lastWith_of_tail (lastWith_vals_append h pre _)

theorem lastWith_vals_none {b : String} : ∀ (ms : List Member) (prev : Option Int), (∀ m ∈ ms, m.name ≠ b) →
    lastWith (fun p => decide (p.1 = b)) (vals prev ms) = none
  | [], _, _ => rfl
  | m :: ms, _, h => by
    simp only [vals, lastWith]
    rw [lastWith_vals_none ms _ fun m' hm' => h m' (List.mem_cons_of_mem _ hm')]
    simp [h m List.mem_cons_self]

namespace Ns

theorem Store.get_set (s : Store) (x y : String) (v : Int) :
    (s.set x v).get y = if x = y then some v else s.get y := by
  induction s with
  | nil => rfl
  | cons p rest ih =>
    by_cases h : p.1 = x <;> by_cases h2 : x = y <;> simp_all [Store.set, Store.get]

theorem lookupB_setB (env : List (String × Binding)) (x y : String) (v : Int) :
    lookupB (setB env x v) y =
      if x = y then (match lookupB env x with | some _ => some (.val v) | none => none)
      else lookupB env y := by
  induction env with
  | nil => simp [setB, lookupB]
  | cons p rest ih =>
    by_cases h : p.1 = x <;> by_cases h2 : x = y <;> simp_all [setB, lookupB]

/-- how one name stands in the two states: its binding in the alias scope against its resolution
    and its local in tsc's reading -/
def SimAt : Option Binding → Option Res → Option Int → Prop
  | some .alias, r, _ => r = some .prop
  | some (.val v), r, l => r = some .loc ∧ l = some v
  | none, r, _ => r = none

/-- simulation invariant between the alias scope and tsc's resolution -/
def Sim (a : AliasSt) (e : EmitSt) : Prop :=
  a.obj = e.obj ∧ ∀ x, SimAt (lookupB a.env x) (resolve e.res x) (e.locals.get x)

theorem eval_sim (a : AliasSt) (e : EmitSt) (h : Sim a e) (ex : Expr) :
    evalAlias a ex = evalEmit e ex := by
  induction ex with
  | lit n => rfl
  | var x =>
    have hx := h.2 x
    simp only [evalAlias, evalEmit]
    match lookupB a.env x, hx with
    | none, hx => rw [show resolve e.res x = none from hx]
    | some .alias, hx => rw [show resolve e.res x = some .prop from hx, h.1]
    | some (.val v), hx => rw [hx.1]; simp only [hx.2, Option.getD]
  | add p q ihp ihq => simp only [evalAlias, evalEmit, ihp, ihq]

theorem step_sim (a : AliasSt) (e : EmitSt) (h : Sim a e) (st : Stmt) :
    Sim (stepAlias a st) (stepEmit e st) := by
  have hev := eval_sim a e h
  obtain ⟨ho, hs⟩ := h
  -- in each case what the name `x` of the statement stands for is computed; any other name `y` stands as before (`hs y`)
  cases st with
  | exportVar x ex =>
    refine ⟨by simp only [stepAlias, stepEmit, hev, ho], fun y => ?_⟩
    by_cases hxy : x = y
    · simp [stepAlias, stepEmit, lookupB, resolve, hxy, SimAt]
    · simpa [stepAlias, stepEmit, lookupB, resolve, hxy] using hs y
  | localVar x ex =>
    refine ⟨ho, fun y => ?_⟩
    by_cases hxy : x = y
    · simp [stepAlias, stepEmit, lookupB, resolve, hxy, SimAt, Store.get_set, hev]
    · simpa [stepAlias, stepEmit, lookupB, resolve, hxy, Store.get_set] using hs y
  | assign x ex =>
    have hx := hs x
    simp only [stepAlias, stepEmit]
    match hl : lookupB a.env x, hx with
    | none, hx => rw [show resolve e.res x = none from hx]; exact ⟨ho, hs⟩
    | some .alias, hx =>
      rw [show resolve e.res x = some .prop from hx]
      exact ⟨by simp only [hev, ho], hs⟩
    | some (.val v), hx =>
      rw [hx.1]
      refine ⟨ho, fun y => ?_⟩
      by_cases hxy : x = y
      · subst hxy; simpa [lookupB_setB, hl, Store.get_set, SimAt, hev] using hx.1
      · simpa [lookupB_setB, hxy, Store.get_set] using hs y

theorem sim_init (obj : Store) (exported : List String) :
    Sim { obj := obj, env := exported.map (fun x => (x, Binding.alias)) }
        { obj := obj, locals := [], res := exported.map (fun x => (x, Res.prop)) } := by
  refine ⟨rfl, fun y => ?_⟩
  induction exported with
  | nil => rfl
  | cons x xs ih =>
    by_cases hxy : x = y
    · simp [lookupB, resolve, hxy, SimAt]
    · simpa [lookupB, resolve, hxy] using ih

theorem body_sim (body : List Stmt) (a : AliasSt) (e : EmitSt) (h : Sim a e) :
    Sim (body.foldl stepAlias a) (body.foldl stepEmit e) :=
  List.foldl_rel h fun st _ a e h => step_sim a e h st

end Ns

end TsrunVerif.Emit
