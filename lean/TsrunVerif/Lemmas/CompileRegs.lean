import TsrunVerif.Lemmas.CompileNeed

/-!
Every register an emitted instruction names lies inside the window the construct was given: the
destination, or one of the `need e` registers above the next free one.  Hence a register file of
`needS s` registers (the chunk's `register_count`) is never indexed out of range.
-/

namespace TsrunVerif.Compile

/-- the registers an instruction reads or writes -/
def opRegs : Op → List Nat
  | .loadNull d | .loadUndef d | .loadBool d _ | .loadInt d _ | .loadConstNum d _ | .loadConstStr d _ => [d]
  | .getVar d _ | .tryGetVar d _ => [d]
  | .setVar _ s => [s]
  | .move d s => [d, s]
  | .un _ d s => [d, s]
  | .bin _ d l r => [d, l, r]
  | .jump _ => []
  | .jumpIfTrue c _ | .jumpIfFalse c _ | .jumpIfNotNullish c _ => [c]
  | .pushScope | .popScope | .pushTry _ | .popTry | .halt => []
  | .throw_ s => [s]

/-- all registers of `body` are `dst` or in `[n, n + k)` -/
def RegsIn (body : List Op) (dst n k : Nat) : Prop :=
  ∀ op ∈ body, ∀ r ∈ opRegs op, r = dst ∨ (n ≤ r ∧ r < n + k)

/-- all registers of `body` are in `[n, n + k)` -/
def Win (body : List Op) (n k : Nat) : Prop :=
  ∀ op ∈ body, ∀ r ∈ opRegs op, n ≤ r ∧ r < n + k

section
variable {b : List Op} {dst n k k' : Nat}

/-- a sub-expression compiled into the fresh register `n` with `n + 1` as the next free one -/
theorem RegsIn.sub (h : RegsIn b n (n + 1) k) (hk : 1 + k ≤ k') : RegsIn b dst n k' :=
  Mentions.mono h fun r h => by omega

/-- the same, one register further up (the right operand of a binary operator) -/
theorem RegsIn.sub2 (h : RegsIn b (n + 1) (n + 2) k) (hk : 2 + k ≤ k') : RegsIn b dst n k' :=
  Mentions.mono h fun r h => by omega

theorem RegsIn.win (h : RegsIn b n (n + 1) k) (hk : 1 + k ≤ k') : Win b n k' :=
  Mentions.mono h fun r h => by omega
end

theorem regs_lit (dst : Reg) (l : Lit) : opRegs (litOp dst l) = [dst] := by
  cases l with
  | num z => simp only [litOp]; split <;> rfl
  | _ => rfl

theorem regs_skip (op : LogOp) (c t : Nat) : opRegs (retarget (skipOp op c) t) = [c] := by
  cases op <;> rfl

/-- the induction carries an arbitrary window size `k ≥ need e`, so that a part's window is the whole's and
    `need`'s `max` is taken apart once per construct (`Nat.max_le`) -/
theorem codeE_regs_le : ∀ (e : Expr) (dst n base : Nat) (body : List Op), codeE e dst n base = some body →
    ∀ k, need e ≤ k → RegsIn body dst n k := by
  apply codeE_induct
  case lit => intro l dst n base k _; exact Mentions.one (regs_lit _ _) (.inl rfl) Mentions.nil
  case var => intro x dst n base k _; exact Mentions.one rfl (.inl rfl) Mentions.nil
  case typeof =>
    intro op e x dst n base hn hq k hk
    simp only [need, hq] at hk
    have h0 : n = dst ∨ n ≤ n ∧ n < n + k := .inr ⟨Nat.le_refl _, by omega⟩
    exact Mentions.one rfl h0 (Mentions.two rfl (.inl rfl) h0 Mentions.nil)
  case un =>
    intro op e dst n base be hn hq _ ih k hk
    simp only [need, hq] at hk
    exact Mentions.append ((ih _ (Nat.le_refl _)).sub hk)
      (Mentions.two rfl (.inl rfl) (.inr ⟨Nat.le_refl _, by omega⟩) Mentions.nil)
  case bin =>
    intro op l r dst n base bl br hn hn1 _ _ ihl ihr k hk
    simp only [need, Nat.max_le] at hk
    exact Mentions.append (Mentions.append ((ihl _ (Nat.le_refl _)).sub hk.1) ((ihr _ (Nat.le_refl _)).sub2 hk.2))
      (Mentions.three rfl (.inl rfl) (.inr ⟨Nat.le_refl _, by omega⟩) (.inr ⟨Nat.le_succ _, by omega⟩) Mentions.nil)
  case log =>
    intro op l r dst n base bl br _ _ ihl ihr k hk
    simp only [need, Nat.max_le] at hk
    exact Mentions.append (ihl k hk.1) (Mentions.one (regs_skip _ _ _) (.inl rfl) (ihr k hk.2))
  case cond =>
    intro c t f dst n base bc bt bf hn _ _ _ ihc iht ihf k hk
    simp only [need, Nat.max_le] at hk
    exact Mentions.append ((ihc _ (Nat.le_refl _)).sub hk.1) (Mentions.one rfl (by omega)
      (Mentions.append (iht k hk.2.1) (Mentions.skip rfl (ihf k hk.2.2))))
  case assign =>
    intro x e dst n base be _ ih k hk
    exact Mentions.append (ih k hk) (Mentions.one rfl (.inl rfl) Mentions.nil)
  case asgBin =>
    intro x op e dst n base be hn _ ih k hk
    simp only [need] at hk
    exact Mentions.one rfl (.inl rfl) (Mentions.append ((ih _ (Nat.le_refl _)).sub hk)
      (Mentions.three rfl (.inl rfl) (.inl rfl) (.inr ⟨Nat.le_refl _, by omega⟩) (Mentions.one rfl (.inl rfl) Mentions.nil)))
  case asgLog =>
    intro x lop e dst n base be _ ih k hk
    rw [need_asgLog] at hk
    exact Mentions.one rfl (.inl rfl) (Mentions.one (regs_skip _ _ _) (.inl rfl)
      (Mentions.append (ih k hk) (Mentions.one rfl (.inl rfl) Mentions.nil)))
  case seq =>
    intro a c dst n base ba bc hn _ _ iha ihc k hk
    simp only [need, Nat.max_le] at hk
    exact Mentions.append ((iha _ (Nat.le_refl _)).sub hk.1) (ihc k hk.2)
  case updPost =>
    intro x inc dst n base hn hn1 k hk
    simp only [need] at hk
    have h0 : n = dst ∨ n ≤ n ∧ n < n + k := .inr ⟨Nat.le_refl _, by omega⟩
    have h1 : n + 1 = dst ∨ n ≤ n + 1 ∧ n + 1 < n + k := .inr ⟨Nat.le_succ _, by omega⟩
    exact Mentions.one rfl (.inl rfl) <| Mentions.two rfl (.inl rfl) (.inl rfl) <| Mentions.two rfl h0 (.inl rfl) <|
      Mentions.one rfl h1 <| Mentions.three rfl (.inl rfl) (.inl rfl) h1 <| Mentions.one rfl (.inl rfl) <|
      Mentions.two rfl (.inl rfl) h0 Mentions.nil
  case updPre =>
    intro x inc dst n base hn k hk
    simp only [need] at hk
    have h0 : n = dst ∨ n ≤ n ∧ n < n + k := .inr ⟨Nat.le_refl _, by omega⟩
    exact Mentions.one rfl (.inl rfl) <| Mentions.two rfl (.inl rfl) (.inl rfl) <| Mentions.one rfl h0 <|
      Mentions.three rfl (.inl rfl) (.inl rfl) h0 <| Mentions.one rfl (.inl rfl) Mentions.nil

/-- **no instruction names a register outside the construct's window** -/
theorem codeE_regs : ∀ (e : Expr) (dst n base : Nat) (body : List Op), codeE e dst n base = some body →
    RegsIn body dst n (need e) :=
  fun e dst n base body hc => codeE_regs_le e dst n base body hc _ (Nat.le_refl _)

theorem codeSL_regs_le :
    (∀ (s : Stmt) (n base : Nat) (body : List Op), codeS s n base = some body → ∀ k, needS s ≤ k → Win body n k) ∧
      ∀ (ss : List Stmt) (n base : Nat) (body : List Op), codeL ss n base = some body →
        ∀ k, needL ss ≤ k → Win body n k := by
  apply codeS_induct
  case expr => intro e n base be hn he k hk; exact (codeE_regs _ _ _ _ _ he).win hk
  case ite =>
    intro c t n base bc bt hn hc _ iht k hk
    simp only [needS, Nat.max_le] at hk
    exact Mentions.append ((codeE_regs _ _ _ _ _ hc).win hk.1) (Mentions.one rfl (by omega) (iht k hk.2))
  case iteElse =>
    intro c t f n base bc bt bf hn hc _ _ iht ihf k hk
    simp only [needS, Nat.max_le] at hk
    exact Mentions.append ((codeE_regs _ _ _ _ _ hc).win hk.1) (Mentions.one rfl (by omega)
      (Mentions.append (iht k hk.2.1) (Mentions.skip rfl (ihf k hk.2.2))))
  case while_ =>
    intro c b n base bc bb hn hc _ ihb k hk
    simp only [needS, Nat.max_le] at hk
    exact Mentions.append ((codeE_regs _ _ _ _ _ hc).win hk.1) (Mentions.one rfl (by omega)
      (Mentions.append (ihb k hk.2) (Mentions.skip rfl Mentions.nil)))
  case doWhile =>
    intro b c n base bb bc hn _ hc ihb k hk
    simp only [needS, Nat.max_le] at hk
    exact Mentions.append (Mentions.append (ihb k hk.1) ((codeE_regs _ _ _ _ _ hc).win hk.2))
      (Mentions.one rfl (by omega) Mentions.nil)
  case block =>
    intro ss n base bs _ ih k hk
    exact Mentions.skip rfl (Mentions.append (ih k hk) (Mentions.skip rfl Mentions.nil))
  case empty => intro n base k _; exact Mentions.nil
  case throw_ =>
    intro e n base be hn he k hk
    simp only [needS] at hk
    exact Mentions.append ((codeE_regs _ _ _ _ _ he).win hk) (Mentions.one rfl (by omega) Mentions.nil)
  case tryCatch =>
    intro tb hb n base bb bh _ _ ihb ihh k hk
    simp only [needS, Nat.max_le] at hk
    refine Mentions.skip rfl (Mentions.skip rfl (Mentions.append (ihb k hk.1) ?_))
    refine Mentions.skip rfl (Mentions.skip rfl (Mentions.skip rfl (Mentions.skip rfl ?_)))
    exact Mentions.append (ihh k hk.2) (Mentions.skip rfl (Mentions.skip rfl Mentions.nil))
  case nil => intro n base k _; exact Mentions.nil
  case cons =>
    intro s rest n base b1 b2 _ _ ih1 ih2 k hk
    simp only [needL, Nat.max_le] at hk
    exact Mentions.append (ih1 k hk.1) (ih2 k hk.2)

theorem codeS_regs : ∀ (s : Stmt) (n base : Nat) (body : List Op), codeS s n base = some body → Win body n (needS s) :=
  fun s n base body hc => codeSL_regs_le.1 s n base body hc _ (Nat.le_refl _)

theorem codeL_regs : ∀ (ss : List Stmt) (n base : Nat) (body : List Op), codeL ss n base = some body → Win body n (needL ss) :=
  fun ss n base body hc => codeSL_regs_le.2 ss n base body hc _ (Nat.le_refl _)

end TsrunVerif.Compile
