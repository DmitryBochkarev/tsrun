import TsrunVerif.Model.Path

/-! Lemmas for M-Path: `splitSlash` undoes `joinSlash` on slash-free segments; normalising keeps exactly
the ordinary segments, so an absolute path normalises to `/` followed by ordinary segments and such a
path is left as it is; two spellings whose segments act alike on the segments kept so far normalise
and resolve alike. -/
namespace TsrunVerif.Path

/-- An ordinary path segment: what may remain after normalisation. -/
def Ordinary (s : List Char) : Prop :=
  s ≠ [] ∧ s ≠ ['.'] ∧ s ≠ ['.', '.'] ∧ '/' ∉ s

def Abs (p : List Char) : Prop := startsWithSlash p = true

/-- `/seg₁/seg₂/…/segₙ` with ordinary segments (n = 0 gives `/`). -/
def Canonical (p : List Char) : Prop :=
  ∃ l : List (List Char), p = '/' :: joinSlash l ∧ ∀ s ∈ l, Ordinary s

theorem Canonical.abs {p : List Char} : Canonical p → Abs p
  | ⟨_, h, _⟩ => h ▸ rfl

/-- `splitSlash` never takes the first branch of its inner `match`. -/
theorem splitSlash_eq_cons (p : List Char) : ∃ s ss, splitSlash p = s :: ss := by
  induction p with
  | nil => exact ⟨[], [], rfl⟩
  | cons c cs ih =>
    obtain ⟨s, ss, h⟩ := ih
    by_cases hc : c = '/'
    · exact ⟨[], splitSlash cs, by rw [splitSlash, if_pos hc]⟩
    · exact ⟨c :: s, ss, by rw [splitSlash, if_neg hc, h]⟩

theorem splitSlash_append (a b : List Char) :
    splitSlash (a ++ '/' :: b) = splitSlash a ++ splitSlash b := by
  induction a with
  | nil => simp [splitSlash]
  | cons c cs ih =>
    obtain ⟨s, ss, h⟩ := splitSlash_eq_cons cs
    by_cases hc : c = '/' <;> simp [splitSlash, hc, ih, h]

theorem splitSlash_noSlash (p : List Char) : ∀ s ∈ splitSlash p, '/' ∉ s := by
  induction p with
  | nil => simp [splitSlash]
  | cons c cs ih =>
    obtain ⟨s, ss, h⟩ := splitSlash_eq_cons cs
    rw [h, List.forall_mem_cons] at ih
    by_cases hc : c = '/'
    · rw [splitSlash, if_pos hc, h, List.forall_mem_cons]
      exact ⟨List.not_mem_nil, List.forall_mem_cons.mpr ih⟩
    · rw [splitSlash, if_neg hc, h, List.forall_mem_cons]
      exact ⟨fun hm => (List.mem_cons.mp hm).elim (Ne.symm hc) ih.1, ih.2⟩

theorem splitSlash_of_noSlash (s : List Char) (h : '/' ∉ s) : splitSlash s = [s] := by
  induction s with
  | nil => rfl
  | cons c cs ih =>
    rw [List.mem_cons, not_or] at h
    simp [splitSlash, Ne.symm h.1, ih h.2]

theorem splitSlash_join (l : List (List Char)) (hne : l ≠ [])
    (h : ∀ s ∈ l, '/' ∉ s) : splitSlash (joinSlash l) = l := by
  induction l with
  | nil => exact absurd rfl hne
  | cons s t ih =>
    have hs := splitSlash_of_noSlash s (h s (by simp))
    cases t with
    | nil => exact hs
    | cons t r => rw [joinSlash, splitSlash_append, hs, ih (by simp) (fun x hx => h x (by simp [hx]))]; rfl

theorem normStep_of_ordinary (acc : List (List Char)) {x : List Char} (hx : Ordinary x) :
    normStep acc x = acc ++ [x] := by
  rw [normStep, if_neg (by rintro (h | h); exact hx.1 h; exact hx.2.1 h), if_neg hx.2.2.1]

theorem ordinary_of_mem_normStep (acc : List (List Char)) (x : List Char) (hx : '/' ∉ x)
    (hacc : ∀ s ∈ acc, Ordinary s) : ∀ s ∈ normStep acc x, Ordinary s := by
  rw [normStep]
  by_cases h1 : x = [] ∨ x = ['.']
  · rw [if_pos h1]; exact hacc
  · rw [if_neg h1]
    by_cases h2 : x = ['.', '.']
    · rw [if_pos h2]; exact fun s hs => hacc s (List.dropLast_subset _ hs)
    · rw [if_neg h2]
      intro s hs
      rcases List.mem_append.mp hs with h | h
      · exact hacc s h
      · rw [List.mem_singleton.mp h]
        exact ⟨fun e => h1 (Or.inl e), fun e => h1 (Or.inr e), h2, hx⟩

theorem ordinary_of_mem_normSegs (l : List (List Char)) (hl : ∀ s ∈ l, '/' ∉ s) :
    ∀ s ∈ normSegs l, Ordinary s :=
  List.foldlRecOn l normStep (motive := fun acc => ∀ s ∈ acc, Ordinary s) (fun _ h => absurd h List.not_mem_nil)
    fun acc hacc x hx => ordinary_of_mem_normStep acc x (hl x hx) hacc

theorem foldl_normStep_of_ordinary (l acc : List (List Char)) (hl : ∀ s ∈ l, Ordinary s) :
    l.foldl normStep acc = acc ++ l := by
  induction l generalizing acc with
  | nil => simp
  | cons x xs ih =>
    rw [List.foldl_cons, normStep_of_ordinary acc (hl x (by simp)), ih _ (fun s hs => hl s (by simp [hs]))]
    simp

theorem normSegs_of_ordinary (l : List (List Char)) (hl : ∀ s ∈ l, Ordinary s) :
    normSegs l = l := by
  simpa [normSegs] using foldl_normStep_of_ordinary l [] hl

/-- the accumulator does not split off the fold in general (a `..` in the input pops into it); the input
does. -/
theorem foldl_normStep_append (a b acc : List (List Char)) :
    (a ++ b).foldl normStep acc = b.foldl normStep (a.foldl normStep acc) := by
  simp [List.foldl_append]

theorem startsWithSlash_cons (p : List Char) : startsWithSlash ('/' :: p) = true := rfl

theorem canonical_normalize (p : List Char) (h : Abs p) : Canonical (normalize p) :=
  ⟨normSegs (splitSlash p), if_pos h, ordinary_of_mem_normSegs _ (splitSlash_noSlash p)⟩

theorem normalize_of_canonical (p : List Char) (h : Canonical p) : normalize p = p := by
  obtain ⟨l, rfl, hl⟩ := h
  have hsplit : normSegs (splitSlash ('/' :: joinSlash l)) = l := by
    cases l with
    | nil => rfl
    | cons s t =>
      -- the empty segment in front of the leading slash is dropped, the rest is kept
      rw [splitSlash, if_pos rfl, splitSlash_join (s :: t) (by simp) (fun x hx => (hl x hx).2.2.2)]
      exact normSegs_of_ordinary (s :: t) hl
  simp [normalize, startsWithSlash, hsplit]

theorem joinSlash_last (l : List (List Char)) (hne : l ≠ []) (hl : ∀ s ∈ l, Ordinary s) :
    ∃ q c, joinSlash l = q ++ [c] ∧ c ≠ '/' := by
  induction l with
  | nil => exact absurd rfl hne
  | cons s t ih =>
    cases t with
    | nil =>
      have hs := hl s (by simp)
      obtain ⟨q, c, rfl⟩ := (List.eq_nil_or_concat s).resolve_left hs.1
      exact ⟨q, c, by simp [joinSlash], fun e => hs.2.2.2 (by simp [e])⟩
    | cons t r =>
      obtain ⟨q, c, hq, hc⟩ := ih (by simp) (fun x hx => hl x (by simp [hx]))
      exact ⟨s ++ '/' :: q, c, by simp [joinSlash, hq], hc⟩

/-! What follows `a/` matters only through what its segments do to the segments kept so far: two tails that
do the same to every accumulator are interchangeable, in `normalize` and (`resolve_respell`) in `resolve`. -/

theorem startsWithSlash_mid (a m1 m2 : List Char) :
    startsWithSlash (a ++ '/' :: m1) = startsWithSlash (a ++ '/' :: m2) := by
  cases a <;> rfl

theorem normalize_respell (a m1 m2 : List Char)
    (h : ∀ acc, (splitSlash m1).foldl normStep acc = (splitSlash m2).foldl normStep acc) :
    normalize (a ++ '/' :: m1) = normalize (a ++ '/' :: m2) := by
  simp only [normalize, normSegs, splitSlash_append, List.foldl_append, h, startsWithSlash_mid a m1 m2]

theorem not_abs_of_isRelative (s : List Char) (h : isRelative s = true) : startsWithSlash s = false := by
  cases s with
  | nil => rfl
  | cons c cs =>
    have hc : c = '.' := by
      simp only [isRelative, List.isPrefixOf, Bool.or_eq_true, Bool.and_eq_true, beq_iff_eq] at h
      exact h.elim (·.1.symm) (·.1.symm)
    subst hc; rfl

/-- the directory of an absolute importer, joined to any specifier, is absolute (the directory of
`/main.ts` is the empty string: joined to `s` it is `/s`) -/
theorem parent_abs (b : List Char) (hb : Abs b) : ∃ d, parent b = some d ∧ ∀ s, Abs (d ++ '/' :: s) := by
  cases b with
  | nil => simp [Abs, startsWithSlash] at hb
  | cons c cs =>
    have hc : c = '/' := by simpa [Abs, startsWithSlash] using hb
    subst hc
    rw [parent]
    cases parent cs with
    | none => exact ⟨[], rfl, fun _ => rfl⟩
    | some d => exact ⟨'/' :: d, rfl, fun _ => rfl⟩

/-- `isRelative` reads at most three characters and stops at the first `/`: each case computes -/
theorem isRelative_mid (s1 m1 m2 : List Char) :
    isRelative (s1 ++ '/' :: m1) = isRelative (s1 ++ '/' :: m2) := by
  match s1 with
  | [] => rfl
  | [c1] => rfl
  | [c1, c2] => rfl
  | c1 :: c2 :: c3 :: r => rfl

theorem resolve_respell (s1 m1 m2 : List Char) (b : Option (List Char))
    (hn : ∀ a, normalize (a ++ '/' :: m1) = normalize (a ++ '/' :: m2))
    (hnb : isBare (s1 ++ '/' :: m2) = false) :
    resolve (s1 ++ '/' :: m1) b = resolve (s1 ++ '/' :: m2) b := by
  have hbare : isBare (s1 ++ '/' :: m1) = false := by
    rw [isBare, startsWithSlash_mid s1 m1 m2, isRelative_mid s1 m1 m2]; exact hnb
  simp only [resolve, hbare, hnb, startsWithSlash_mid s1 m1 m2, Bool.false_eq_true, if_false]
  split
  · exact hn s1
  · cases b.bind parent with
    | none => exact hn s1
    | some dir => simpa using hn (dir ++ '/' :: s1)

end TsrunVerif.Path
