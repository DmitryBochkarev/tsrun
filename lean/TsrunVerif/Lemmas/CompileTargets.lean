import TsrunVerif.Lemmas.CompileInv

/-!
Jump targets stay inside the construct: every target an emitted instruction names (jumps, the catch
target of `PushTry`) is at most the end of the construct's own code.  Hence the VM's program
counter never leaves the code, whatever the program does - also when it never terminates.
-/

namespace TsrunVerif.Compile

/-- the code positions an instruction can transfer control to (besides the next instruction) -/
def opTargets : Op → List Nat
  | .jump t => [t]
  | .jumpIfTrue _ t | .jumpIfFalse _ t | .jumpIfNotNullish _ t => [t]
  | .pushTry t => [t]
  | _ => []

/-- all targets of `body` are at most `B` -/
def TgtLe (body : List Op) (B : Nat) : Prop := ∀ op ∈ body, ∀ t ∈ opTargets op, t ≤ B

theorem tgt_lit (dst : Reg) (l : Lit) : opTargets (litOp dst l) = [] := by
  cases l with
  | num z => simp only [litOp]; split <;> rfl
  | _ => rfl

theorem tgt_skip (op : LogOp) (c t : Nat) : opTargets (retarget (skipOp op c) t) = [t] := by
  cases op <;> rfl

/-- the code `body`, placed at `base`, ends at or before `B`.  `left`, `right`, `tail` walk to a part of `body` as
    `Embeds.left` … do (the offsets come out as `codeE` writes them), `start` bounds a jump to where a part begins -/
def Ends (base : Nat) (body : List Op) (B : Nat) : Prop := base + body.length ≤ B

namespace Ends
variable {base B : Nat} {x y : List Op} {op : Op}

theorem left (h : Ends base (x ++ y) B) : Ends base x B :=
  Nat.le_trans (Nat.add_le_add_left (List.length_append ▸ Nat.le_add_right ..) _) h

theorem right (h : Ends base (x ++ y) B) : Ends (base + x.length) y B := by
  rwa [Ends, Nat.add_assoc, ← List.length_append]

theorem tail (h : Ends base (op :: y) B) : Ends (base + 1) y B :=
  right (x := [op]) h

theorem start (h : Ends base x B) : base ≤ B :=
  Nat.le_trans (Nat.le_add_right ..) h

end Ends

/-- the induction carries an arbitrary bound `B` beyond the end of the code, so that the bound of a
    part is the bound of the whole -/
theorem codeE_targets_le : ∀ (e : Expr) (dst n base : Nat) (body : List Op), codeE e dst n base = some body →
    ∀ B, Ends base body B → TgtLe body B := by
  apply codeE_induct
  case lit => intro l dst n base B _; exact Mentions.skip (tgt_lit _ _) Mentions.nil
  case var => intro x dst n base B _; exact Mentions.skip rfl Mentions.nil
  case typeof =>
    intro op e x dst n base _ _ B _
    exact Mentions.skip rfl (Mentions.skip rfl Mentions.nil)
  case un =>
    intro op e dst n base be _ _ _ ih B hB
    exact Mentions.append (ih B hB.left) (Mentions.skip rfl Mentions.nil)
  case bin =>
    intro op l r dst n base bl br _ _ _ _ ihl ihr B hB
    exact Mentions.append (Mentions.append (ihl B hB.left.left) (ihr B hB.left.right))
      (Mentions.skip rfl Mentions.nil)
  case log =>
    intro op l r dst n base bl br _ _ ihl ihr B hB
    exact Mentions.append (ihl B hB.left) (Mentions.one (tgt_skip _ _ _) hB.right.tail (ihr B hB.right.tail))
  case cond =>
    intro c t f dst n base bc bt bf _ _ _ _ ihc iht ihf B hB
    have hf := hB.right.tail.right.tail
    exact Mentions.append (ihc B hB.left) (Mentions.one rfl hf.start
      (Mentions.append (iht B hB.right.tail.left) (Mentions.one rfl hf (ihf B hf))))
  case assign =>
    intro x e dst n base be _ ih B hB
    exact Mentions.append (ih B hB.left) (Mentions.skip rfl Mentions.nil)
  case asgBin =>
    intro x op e dst n base be _ _ ih B hB
    exact Mentions.skip rfl (Mentions.append (ih B hB.tail.left)
      (Mentions.skip rfl (Mentions.skip rfl Mentions.nil)))
  case asgLog =>
    intro x lop e dst n base be _ ih B hB
    exact Mentions.skip rfl (Mentions.one (tgt_skip _ _ _) hB.tail.tail.left
      (Mentions.append (ih B hB.tail.tail.left) (Mentions.skip rfl Mentions.nil)))
  case seq =>
    intro a c dst n base ba bc _ _ _ iha ihc B hB
    exact Mentions.append (iha B hB.left) (ihc B hB.right)
  case updPost =>
    intro x inc dst n base _ _ B _
    exact Mentions.skip rfl <| Mentions.skip rfl <| Mentions.skip rfl <| Mentions.skip rfl <| Mentions.skip rfl <|
      Mentions.skip rfl <| Mentions.skip rfl Mentions.nil
  case updPre =>
    intro x inc dst n base _ B _
    exact Mentions.skip rfl <| Mentions.skip rfl <| Mentions.skip rfl <| Mentions.skip rfl <|
      Mentions.skip rfl Mentions.nil

theorem codeE_targets : ∀ (e : Expr) (dst n base : Nat) (body : List Op), codeE e dst n base = some body →
    TgtLe body (base + body.length) :=
  fun e dst n base body hc => codeE_targets_le e dst n base body hc _ (Nat.le_refl _)

theorem codeSL_targets_le :
    (∀ (s : Stmt) (n base : Nat) (body : List Op), codeS s n base = some body →
      ∀ B, Ends base body B → TgtLe body B) ∧
    ∀ (ss : List Stmt) (n base : Nat) (body : List Op), codeL ss n base = some body →
      ∀ B, Ends base body B → TgtLe body B := by
  apply codeS_induct
  case expr => intro e n base be _ he; exact codeE_targets_le e n (n + 1) base be he
  case ite =>
    intro c t n base bc bt _ hc _ iht B hB
    exact Mentions.append (codeE_targets_le _ _ _ _ _ hc B hB.left)
      (Mentions.one rfl hB.right.tail (iht B hB.right.tail))
  case iteElse =>
    intro c t f n base bc bt bf _ hc _ _ iht ihf B hB
    have hf := hB.right.tail.right.tail
    exact Mentions.append (codeE_targets_le _ _ _ _ _ hc B hB.left) (Mentions.one rfl hf.start
      (Mentions.append (iht B hB.right.tail.left) (Mentions.one rfl hf (ihf B hf))))
  case while_ =>
    intro c b n base bc bb _ hc _ ihb B hB
    have hb := hB.right.tail
    exact Mentions.append (codeE_targets_le _ _ _ _ _ hc B hB.left) (Mentions.one rfl hb.right.tail.start
      (Mentions.append (ihb B hb.left) (Mentions.one rfl hB.start Mentions.nil)))
  case doWhile =>
    intro b c n base bb bc _ _ hc ihb B hB
    exact Mentions.append (Mentions.append (ihb B hB.left.left) (codeE_targets_le _ _ _ _ _ hc B hB.left.right))
      (Mentions.one rfl hB.start Mentions.nil)
  case block =>
    intro ss n base bs _ ih B hB
    exact Mentions.skip rfl (Mentions.append (ih B hB.tail.left)
      (Mentions.skip rfl Mentions.nil))
  case empty => intro n base B _; exact Mentions.nil
  case throw_ =>
    intro e n base be _ he B hB
    exact Mentions.append (codeE_targets_le _ _ _ _ _ he B hB.left) (Mentions.skip rfl Mentions.nil)
  case tryCatch =>
    intro tb hb n base bb bh _ _ ihb ihh B hB
    -- the handler's `pushScope` (the catch target), the handler's body, the end of the statement
    have hc := hB.tail.tail.right.tail.tail.tail
    have hh := hc.tail
    have he := hh.right.tail.tail
    refine Mentions.one rfl hc.start (Mentions.skip rfl
      (Mentions.append (ihb B hB.tail.tail.left) ?_))
    refine Mentions.skip rfl (Mentions.skip rfl
      (Mentions.one rfl he.start (Mentions.skip rfl ?_)))
    exact Mentions.append (ihh B hh.left) (Mentions.skip rfl
      (Mentions.one rfl he.start Mentions.nil))
  case nil => intro n base B _; exact Mentions.nil
  case cons =>
    intro s rest n base b1 b2 _ _ ih1 ih2 B hB
    exact Mentions.append (ih1 B hB.left) (ih2 B hB.right)

theorem codeS_targets : ∀ (s : Stmt) (n base : Nat) (body : List Op), codeS s n base = some body →
    TgtLe body (base + body.length) :=
  fun s n base body hc => codeSL_targets_le.1 s n base body hc _ (Nat.le_refl _)

theorem codeL_targets : ∀ (ss : List Stmt) (n base : Nat) (body : List Op), codeL ss n base = some body →
    TgtLe body (base + body.length) :=
  fun ss n base body hc => codeSL_targets_le.2 ss n base body hc _ (Nat.le_refl _)

end TsrunVerif.Compile
