import TsrunVerif.Model.Compile

/-!
Induction over the emitted code.  `codeE e dst n base = some body` holds in exactly thirteen ways (one
per construct that compiles), `codeS` / `codeL` in eleven; `codeE_induct` / `codeS_induct` state them as
rules.  Every fact about emitted code (registers, jump targets, the simulation) is an induction over
these rules: the refusing branches of `codeE` are dealt with here, once.  Where refusal is the subject
(`compileE_at`, `codeE_isSome_iff`) `match_eq_bind` turns the code into a `bind` chain instead.
-/
namespace TsrunVerif.Compile

/-- every number `f` reads off an instruction of `body` (its registers, its jump targets) satisfies `P`;
    `RegsIn`, `Win` and `TgtLe` are instances, by unfolding -/
def Mentions (f : Op → List Nat) (P : Nat → Prop) (body : List Op) : Prop := ∀ op ∈ body, ∀ x ∈ f op, P x

namespace Mentions
variable {f : Op → List Nat} {P Q : Nat → Prop} {a b : List Op} {op : Op}

theorem nil : Mentions f P [] := fun _ h => nomatch h

theorem append (ha : Mentions f P a) (hb : Mentions f P b) : Mentions f P (a ++ b) :=
  fun op h => (List.mem_append.mp h).elim (ha op) (hb op)

theorem cons (ho : ∀ x ∈ f op, P x) (hb : Mentions f P b) : Mentions f P (op :: b) :=
  append (a := [op]) (fun _ h => List.mem_singleton.mp h ▸ ho) hb

theorem skip (h : f op = []) (hb : Mentions f P b) : Mentions f P (op :: b) :=
  cons (by rw [h]; nofun) hb

theorem one {a : Nat} (h : f op = [a]) (ha : P a) (hb : Mentions f P b) : Mentions f P (op :: b) :=
  cons (by rw [h]; exact fun _ hx => List.mem_singleton.mp hx ▸ ha) hb

theorem two {a a' : Nat} (h : f op = [a, a']) (ha : P a) (ha' : P a') (hb : Mentions f P b) : Mentions f P (op :: b) :=
  cons (by rw [h]; exact List.forall_mem_cons.2 ⟨ha, fun _ hx => List.mem_singleton.mp hx ▸ ha'⟩) hb

theorem three {a a' a'' : Nat} (h : f op = [a, a', a'']) (ha : P a) (ha' : P a') (ha'' : P a'') (hb : Mentions f P b) :
    Mentions f P (op :: b) :=
  cons (by rw [h]; exact List.forall_mem_cons.2 ⟨ha, List.forall_mem_cons.2 ⟨ha', fun _ hx => List.mem_singleton.mp hx ▸ ha''⟩⟩) hb

theorem mono (h : Mentions f P b) (hPQ : ∀ x, P x → Q x) : Mentions f Q b :=
  fun op ho x hx => hPQ x (h op ho x hx)

end Mentions

/-- `x &&= e`, `x ||= e`, `x ??= e` are compiled alike, up to the skipping jump -/
def AsgOp.ofLog : LogOp → AsgOp
  | .and => .andA
  | .or => .orA
  | .nullish => .nullishA

theorem codeE_induct {motive : Expr → Reg → Nat → Nat → List Op → Prop}
    (lit : ∀ l (dst : Reg) (n base : Nat), motive (.lit l) dst n base [litOp dst l])
    (var : ∀ x (dst : Reg) (n base : Nat), motive (.var x) dst n base [.getVar dst x])
    (typeof : ∀ op e x (dst : Reg) (n base : Nat), n ≠ 255 → typeofVar? op e = some x →
      motive (.un op e) dst n base [.tryGetVar n x, .un op dst n])
    (un : ∀ op e (dst : Reg) (n base : Nat) be, n ≠ 255 → typeofVar? op e = none → codeE e n (n + 1) base = some be →
      motive e n (n + 1) base be → motive (.un op e) dst n base (be ++ [.un op dst n]))
    (bin : ∀ op l r (dst : Reg) (n base : Nat) bl br, n ≠ 255 → n + 1 ≠ 255 → codeE l n (n + 1) base = some bl →
      codeE r (n + 1) (n + 2) (base + bl.length) = some br →
      motive l n (n + 1) base bl → motive r (n + 1) (n + 2) (base + bl.length) br →
      motive (.bin op l r) dst n base (bl ++ br ++ [.bin op dst n (n + 1)]))
    (log : ∀ op l r (dst : Reg) (n base : Nat) bl br, codeE l dst n base = some bl →
      codeE r dst n (base + bl.length + 1) = some br →
      motive l dst n base bl → motive r dst n (base + bl.length + 1) br →
      motive (.log op l r) dst n base (bl ++ retarget (skipOp op dst) (base + bl.length + 1 + br.length) :: br))
    (cond : ∀ c t f (dst : Reg) (n base : Nat) bc bt bf, n ≠ 255 → codeE c n (n + 1) base = some bc →
      codeE t dst n (base + bc.length + 1) = some bt →
      codeE f dst n (base + bc.length + 1 + bt.length + 1) = some bf →
      motive c n (n + 1) base bc → motive t dst n (base + bc.length + 1) bt →
      motive f dst n (base + bc.length + 1 + bt.length + 1) bf →
      motive (.cond c t f) dst n base (bc ++ .jumpIfFalse n (base + bc.length + 1 + bt.length + 1) ::
        (bt ++ .jump (base + bc.length + 1 + bt.length + 1 + bf.length) :: bf)))
    (assign : ∀ x e (dst : Reg) (n base : Nat) be, codeE e dst n base = some be → motive e dst n base be →
      motive (.asg x .assign e) dst n base (be ++ [.setVar x dst]))
    (asgBin : ∀ x op e (dst : Reg) (n base : Nat) be, n ≠ 255 → codeE e n (n + 1) (base + 1) = some be →
      motive e n (n + 1) (base + 1) be →
      motive (.asg x (.bin op) e) dst n base (.getVar dst x :: (be ++ [.bin op dst dst n, .setVar x dst])))
    (asgLog : ∀ x lop e (dst : Reg) (n base : Nat) be, codeE e dst n (base + 2) = some be → motive e dst n (base + 2) be →
      motive (.asg x (.ofLog lop) e) dst n base
        (.getVar dst x :: retarget (skipOp lop dst) (base + 2 + be.length) :: (be ++ [.setVar x dst])))
    (seq : ∀ a c (dst : Reg) (n base : Nat) ba bc, n ≠ 255 → codeE a n (n + 1) base = some ba →
      codeE c dst n (base + ba.length) = some bc →
      motive a n (n + 1) base ba → motive c dst n (base + ba.length) bc →
      motive (.seq a c) dst n base (ba ++ bc))
    (updPost : ∀ x inc (dst : Reg) (n base : Nat), n ≠ 255 → n + 1 ≠ 255 →
      motive (.upd x inc false) dst n base
        [.getVar dst x, .un .plus dst dst, .move n dst, .loadInt (n + 1) 1,
          .bin (if inc then .add else .sub) dst dst (n + 1), .setVar x dst, .move dst n])
    (updPre : ∀ x inc (dst : Reg) (n base : Nat), n ≠ 255 →
      motive (.upd x inc true) dst n base
        [.getVar dst x, .un .plus dst dst, .loadInt n 1, .bin (if inc then .add else .sub) dst dst n, .setVar x dst]) :
    ∀ e dst n base body, codeE e dst n base = some body → motive e dst n base body := by
  intro e dst n base
  fun_induction codeE e dst n base <;> intro body hc <;> cases hc
  · exact lit ..
  · exact var ..
  · next op e dst n base hn be hbe ih =>
    cases hq : typeofVar? op e with
    | some x => rw [hq] at hbe; cases hbe; exact typeof _ _ _ _ _ _ hn hq
    | none => rw [hq] at hbe; exact un _ _ _ _ _ _ hn hq hbe (ih _ hbe)
  · next hn bl hl hn1 br hr ihl ihr => exact bin _ _ _ _ _ _ _ _ hn hn1 hl hr (ihl _ hl) (ihr _ hr)
  · next bl hl br hr ihl ihr => exact log _ _ _ _ _ _ _ _ hl hr (ihl _ hl) (ihr _ hr)
  · next hn bc hc bt ht bf hf ihc iht ihf =>
    exact cond _ _ _ _ _ _ _ _ _ hn hc ht hf (ihc _ hc) (iht _ ht) (ihf _ hf)
  · next be he ih => exact assign _ _ _ _ _ _ he (ih _ he)
  · next hn be he ih => exact asgBin _ _ _ _ _ _ _ hn he (ih _ he)
  · next be he ih => exact asgLog _ .and _ _ _ _ _ he (ih _ he)
  · next be he ih => exact asgLog _ .or _ _ _ _ _ he (ih _ he)
  · next be he ih => exact asgLog _ .nullish _ _ _ _ _ he (ih _ he)
  · next hn ba ha bc hc iha ihc => exact seq _ _ _ _ _ _ _ hn ha hc (iha _ ha) (ihc _ hc)
  · next hn hn1 => exact updPost _ _ _ _ _ hn hn1
  · next hn => exact updPre _ _ _ _ _ hn

theorem codeS_induct {motiveS : Stmt → Nat → Nat → List Op → Prop} {motiveL : List Stmt → Nat → Nat → List Op → Prop}
    (expr : ∀ e (n base : Nat) be, n ≠ 255 → codeE e n (n + 1) base = some be → motiveS (.expr e) n base be)
    (ite : ∀ c t (n base : Nat) bc bt, n ≠ 255 → codeE c n (n + 1) base = some bc →
      codeS t n (base + bc.length + 1) = some bt → motiveS t n (base + bc.length + 1) bt →
      motiveS (.ite c t none) n base (bc ++ .jumpIfFalse n (base + bc.length + 1 + bt.length) :: bt))
    (iteElse : ∀ c t f (n base : Nat) bc bt bf, n ≠ 255 → codeE c n (n + 1) base = some bc →
      codeS t n (base + bc.length + 1) = some bt → codeS f n (base + bc.length + 1 + bt.length + 1) = some bf →
      motiveS t n (base + bc.length + 1) bt → motiveS f n (base + bc.length + 1 + bt.length + 1) bf →
      motiveS (.ite c t (some f)) n base (bc ++ .jumpIfFalse n (base + bc.length + 1 + bt.length + 1) ::
        (bt ++ .jump (base + bc.length + 1 + bt.length + 1 + bf.length) :: bf)))
    (while_ : ∀ c b (n base : Nat) bc bb, n ≠ 255 → codeE c n (n + 1) base = some bc →
      codeS b n (base + bc.length + 1) = some bb → motiveS b n (base + bc.length + 1) bb →
      motiveS (.while_ c b) n base
        (bc ++ .jumpIfFalse n (base + bc.length + 1 + bb.length + 1) :: (bb ++ [.jump base])))
    (doWhile : ∀ b c (n base : Nat) bb bc, n ≠ 255 → codeS b n base = some bb →
      codeE c n (n + 1) (base + bb.length) = some bc → motiveS b n base bb →
      motiveS (.doWhile b c) n base (bb ++ bc ++ [.jumpIfTrue n base]))
    (block : ∀ ss (n base : Nat) bs, codeL ss n (base + 1) = some bs → motiveL ss n (base + 1) bs →
      motiveS (.block ss) n base (.pushScope :: (bs ++ [.popScope])))
    (empty : ∀ (n base : Nat), motiveS .empty n base [])
    (throw_ : ∀ e (n base : Nat) be, n ≠ 255 → codeE e n (n + 1) base = some be →
      motiveS (.throw_ e) n base (be ++ [.throw_ n]))
    (tryCatch : ∀ tb hb (n base : Nat) bb bh, codeL tb n (base + 2) = some bb →
      codeL hb n (base + 2 + bb.length + 3 + 1) = some bh →
      motiveL tb n (base + 2) bb → motiveL hb n (base + 2 + bb.length + 3 + 1) bh →
      motiveS (.tryCatch tb hb) n base
        (.pushTry (base + 2 + bb.length + 3) :: .pushScope ::
          (bb ++ .popScope :: .popTry :: .jump (base + 2 + bb.length + 3 + 1 + bh.length + 2) :: .pushScope ::
            (bh ++ [.popScope, .jump (base + 2 + bb.length + 3 + 1 + bh.length + 2)]))))
    (nil : ∀ (n base : Nat), motiveL [] n base [])
    (cons : ∀ s rest (n base : Nat) b1 b2, codeS s n base = some b1 → codeL rest n (base + b1.length) = some b2 →
      motiveS s n base b1 → motiveL rest n (base + b1.length) b2 → motiveL (s :: rest) n base (b1 ++ b2)) :
    (∀ s n base body, codeS s n base = some body → motiveS s n base body) ∧
      ∀ ss n base body, codeL ss n base = some body → motiveL ss n base body := by
  apply codeS.mutual_induct_unfolding
    (motive_1 := fun s n base r => ∀ body, r = some body → motiveS s n base body)
    (motive_2 := fun ss n base r => ∀ body, r = some body → motiveL ss n base body)
  -- `hc : r = some body` with `r` the branch's result: a refusing branch ends here, a `some` branch gives `body`
  -- (in the `expr` case `r` is the call `codeE …` itself, and `hc` is the premise the rule asks for)
  all_goals intros; rename_i hc; try cases hc
  · next hn _ => exact expr _ _ _ _ hn hc
  · next hn bc hc bt ht ih => exact ite _ _ _ _ _ _ hn hc ht (ih _ ht)
  · next hn bc hc bt ht bf hf iht ihf => exact iteElse _ _ _ _ _ _ _ _ hn hc ht hf (iht _ ht) (ihf _ hf)
  · next hn bc hc bb hb ih => exact while_ _ _ _ _ _ _ hn hc hb (ih _ hb)
  · next bb hb hn bc hc ih => exact doWhile _ _ _ _ _ _ hn hb hc (ih _ hb)
  · next bs hs ih => exact block _ _ _ _ hs (ih _ hs)
  · exact empty ..
  · next hn be he => exact throw_ _ _ _ _ hn he
  · next bb hb bh hh ihb ihh => exact tryCatch _ _ _ _ _ _ hb hh (ihb _ hb) (ihh _ hh)
  · exact nil ..
  · next b1 h1 b2 h2 ih1 ih2 => exact cons _ _ _ _ _ _ h1 h2 (ih1 _ h1) (ih2 _ h2)

/-- every `match … with | none => none | some b => …` of `codeE`, `codeS` and `codeL` is this one matcher;
    read as `Option.bind`, the code can be walked down in step with another `bind` chain (the `do` blocks of
    `compileE`) or taken apart by lemmas about `bind` -/
theorem match_eq_bind (o : Option (List Op)) (f : List Op → Option (List Op)) :
    codeE.match_1 (fun _ => Option (List Op)) o (fun _ => none) f = o.bind f := by
  cases o <;> rfl

end TsrunVerif.Compile
