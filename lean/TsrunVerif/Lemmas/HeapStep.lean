import TsrunVerif.Lemmas.HeapCollect

/-! every public operation preserves the invariant, and an allocation leaves reachable slots alone. -/
namespace TsrunVerif.Heap

/-- the model's `setAt` is the library's `List.modify`, whose lemmas do the rest. -/
theorem setAt_eq_modify {α} (l : List α) (i : Nat) (f : α → α) : setAt l i f = l.modify i f := by
  unfold setAt
  cases hi : l[i]? with
  | none => exact (List.modify_eq_self (List.getElem?_eq_none_iff.mp hi)).symm
  | some a =>
    refine List.ext_getElem? fun j => ?_
    rw [List.getElem?_set, List.getElem?_modify]
    by_cases hij : i = j
    · subst hij
      simp only [hi, if_pos (List.getElem?_eq_some_iff.mp hi).1, if_true, Option.map_eq_map, Option.map_some]
    · simp only [if_neg hij, Option.map_eq_map, Option.map_id']

theorem length_setAt {α} (l : List α) (i : Nat) (f : α → α) : (setAt l i f).length = l.length := by
  rw [setAt_eq_modify, List.length_modify]

/-- the invariant does not mention the guard table, the allocation counter or the threshold. -/
theorem inv_frame (h : Heap) (gs : List GuardS) (n : Int) (t : Nat) (hi : Inv h) :
    Inv { h with guards := gs, netAllocs := n, threshold := t } := hi

theorem pooledAt_setAt (h : Heap) (a : Nat) (f : Slot → Slot) (hf : ∀ s, (f s).pooled = s.pooled) (i : Nat) :
    pooledAt { h with slots := setAt h.slots a f } i = pooledAt h i := by
  simp only [pooledAt, setAt_eq_modify, List.getElem?_modify]
  cases h.slots[i]? with
  | none => rfl
  | some s => by_cases hai : a = i <;> simp [hai, hf]

theorem inv_setAt (h : Heap) (a : Nat) (f : Slot → Slot) (hf : ∀ s, (f s).pooled = s.pooled) (hi : Inv h) :
    Inv { h with slots := setAt h.slots a f } := by
  rw [inv_iff] at hi ⊢
  simpa only [length_setAt, pooledAt_setAt h a f hf] using hi

theorem allocPre_rule (h : Heap) (P : Heap → Prop) (hb : P { h with netAllocs := h.netAllocs + 1 })
    (hc : P (collect { h with netAllocs := h.netAllocs + 1 })) : P (allocPre h) := by
  unfold allocPre
  simp only
  split
  · exact hc
  · exact hb

theorem inv_allocPre (h : Heap) (hi : Inv h) : Inv (allocPre h) :=
  have hb := inv_frame h h.guards (h.netAllocs + 1) h.threshold hi
  allocPre_rule h Inv hb (inv_collect _ hb)

/-- popping the free list un-pools the popped slot; pushing a fresh box pools nothing. -/
theorem inv_allocCore (h : Heap) (hi : Inv h) : Inv (allocCore h).1 := by
  unfold allocCore
  cases hl : h.free.getLast? with
  | some idx =>
    intro hal
    obtain ⟨ys, hys⟩ := List.getLast?_eq_some_iff.mp hl
    obtain ⟨hnd, hiff⟩ := hi hal
    rw [hys] at hnd hiff
    have ⟨hnd', _, hdisj⟩ := List.nodup_append.mp hnd
    refine ⟨by rwa [hys, List.dropLast_concat], fun i => ?_⟩
    simp only [hys, List.dropLast_concat, setAt_eq_modify]
    by_cases hii : idx = i
    · -- `idx` was on the list once, and its slot now holds `emptySlot`
      subst hii
      rw [List.getElem?_modify_eq]
      refine iff_of_false (fun hmem => hdisj idx hmem idx (List.mem_singleton_self idx) rfl) ?_
      rintro ⟨s, hs, hp⟩
      obtain ⟨_, _, rfl⟩ := Option.map_eq_some_iff.mp hs
      cases hp
    · rw [List.getElem?_modify_ne _ _ hii, ← hiff i, List.mem_append, List.mem_singleton,
        or_iff_left (Ne.symm hii)]
  | none =>
    intro hal
    obtain ⟨-, hiff⟩ := hi hal
    rw [List.getLast?_eq_none_iff.mp hl] at hiff ⊢
    -- no old slot is pooled, and the new one is not
    refine ⟨List.nodup_nil, fun i => iff_of_false List.not_mem_nil ?_⟩
    rintro ⟨s, hs, hp⟩
    rcases List.mem_append.mp (List.mem_of_getElem? hs) with hm | hm
    · obtain ⟨j, hj⟩ := List.getElem?_of_mem hm
      exact List.not_mem_nil ((hiff j).mpr ⟨s, hj, hp⟩)
    · cases List.mem_singleton.mp hm
      cases hp

theorem inv_alloc (h : Heap) (g : Nat) (hi : Inv h) : Inv (alloc h g).1 :=
  inv_frame _ _ _ _ (inv_allocCore _ (inv_allocPre h hi))

theorem allocCore_keeps (h : Heap) (hi : Inv h) (hal : h.alive = true) (i : Nat) (hnp : pooledAt h i = false) :
    (allocCore h).1.slots[i]? = h.slots[i]? := by
  unfold allocCore
  cases hl : h.free.getLast? with
  | some idx =>
    -- the popped index is on the free list, hence pooled, hence not `i`
    have hp := ((((inv_iff h).mp hi hal).2 idx).mp (List.mem_of_getLast? hl)).2
    simp only [setAt_eq_modify]
    exact List.getElem?_modify_ne _ _ fun e => by rw [e, hnp] at hp; cases hp
  | none => exact List.getElem?_append_left (lt_of_not_pooled hnp)

/-- the collection an allocation may start keeps reachable slots, and the slot it then hands out
was pooled, hence not reachable. -/
theorem alloc_keeps (h : Heap) (g i : Nat) (hi : Inv h) (hal : h.alive = true) (hr : Reach h i) :
    (alloc h g).1.slots[i]? = h.slots[i]? := by
  -- reachability does not depend on the allocation counter
  have hr' : Reach { h with netAllocs := h.netAllocs + 1 } i := hr.mono (fun _ hi => hi) fun _ _ _ hj => hj
  have ⟨ha, hp, hs⟩ := allocPre_rule h
    (fun h' => h'.alive = true ∧ pooledAt h' i = false ∧ h'.slots[i]? = h.slots[i]?)
    ⟨hal, reach_not_pooled _ i hr', rfl⟩
    ⟨(collect_alive _).trans hal, (collect_exact _ i).mpr hr', collect_keeps_reachable _ i hr'⟩
  exact (allocCore_keeps _ (inv_allocPre h hi) ha i hp).trans hs

theorem inv_step (h : Heap) (op : Op) (hi : Inv h) : Inv (step h op) := by
  -- an operation that tests whether the heap is alive is `if … then … else h`
  cases op with
  | alloc g => exact iteInduction (fun _ => inv_alloc h g hi) fun _ => hi
  | collect => exact iteInduction (fun _ => inv_collect h hi) fun _ => hi
  | dropHeap => intro hal; cases hal
  | mkGuard | dropGuard g | unguard g s | clear g | handleOp => exact inv_frame h _ _ _ hi
  | guard g s | setThreshold n => exact iteInduction (fun _ => inv_frame h _ _ _ hi) fun _ => hi
  | link a b | unlink a p | write a v =>
    exact iteInduction (fun _ => inv_setAt h _ _ (fun _ => rfl) hi) fun _ => hi

end TsrunVerif.Heap
