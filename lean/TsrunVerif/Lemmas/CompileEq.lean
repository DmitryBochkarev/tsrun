import TsrunVerif.Lemmas.CompileInv

/-!
`compileE` / `compileS` (the line-by-line mirror of the Rust compiler: register allocator, jump
placeholders, `patch_jump`) emit exactly the structured code `codeE` / `codeS`, and leave the
register allocator as they found it (stack discipline), when started with an empty free list.

With an empty free list a builder is `B.at code n sv m`, and every step of the compiler maps such a builder
to another one: `Agree.alloc`, `free_at`, `emit_at`, `patch_at`, and `Agree.bind` for a call of a compile
function.  With the `match`es of `codeE` read as `Option.bind` (`match_eq_bind`) the two sides have the same
shape, and a proof walks down both at once, one line per line of the compiler.
-/

namespace TsrunVerif.Compile
open TsrunVerif.RegAlloc

/-- what a compile function did to the builder: appended `body`, restored the allocator -/
def Rel (b b' : B) (body : List Op) : Prop :=
  b'.code = b.code ++ body ∧ b'.ra.next = b.ra.next ∧ b'.ra.free = [] ∧ b'.ra.saved = b.ra.saved ∧
    b.ra.maxUsed ≤ b'.ra.maxUsed

/-- both refuse, or both succeed with the same code and the allocator restored -/
def Agree (r : Option B) (c : Option (List Op)) (b : B) : Prop :=
  (r = none ∧ c = none) ∨ ∃ b' body, r = some b' ∧ c = some body ∧ Rel b b' body

/-- the builder after a successful `alloc` -/
def B.bump (b : B) : B :=
  { b with ra := { b.ra with next := b.ra.next + 1, maxUsed := max b.ra.maxUsed (b.ra.next + 1) } }

@[simp] theorem bump_free (b : B) : b.bump.ra.free = b.ra.free := rfl
@[simp] theorem bump_saved (b : B) : b.bump.ra.saved = b.ra.saved := rfl
@[simp] theorem bump_max (b : B) : b.bump.ra.maxUsed = max b.ra.maxUsed (b.ra.next + 1) := rfl
@[simp] theorem patchTo_ra (b : B) (i t : Nat) : (b.patchTo i t).ra = b.ra := rfl
@[simp] theorem patchTry_ra (b : B) (i t : Nat) : (b.patchTry i t).ra = b.ra := rfl

theorem alloc_eq (b : B) (hf : b.ra.free = []) :
    b.alloc = if b.ra.next = 255 then none else some (b.ra.next, b.bump) := by
  by_cases h : b.ra.next = 255 <;> simp [B.alloc, RegAlloc.alloc, hf, h, B.bump]

theorem alloc_some {b b1 : B} {r : Reg} (hf : b.ra.free = []) (h : b.alloc = some (r, b1)) :
    b.ra.next ≠ 255 ∧ r = b.ra.next ∧ b1.code = b.code ∧ b1.ra.next = b.ra.next + 1 ∧ b1.ra.free = [] ∧
      b1.ra.saved = b.ra.saved ∧ b.ra.maxUsed ≤ b1.ra.maxUsed := by
  rw [alloc_eq b hf] at h
  split at h
  · cases h
  · cases h
    exact ⟨‹_›, rfl, rfl, rfl, hf, rfl, Nat.le_max_left _ _⟩

theorem alloc_none {b : B} (hf : b.ra.free = []) (h : b.alloc = none) : b.ra.next = 255 := by
  rw [alloc_eq b hf] at h
  split at h
  · assumption
  · cases h

theorem free_top {b : B} {r : Reg} (h : b.ra.next = r + 1) :
    (b.free r).code = b.code ∧ (b.free r).ra.next = r ∧ (b.free r).ra.free = b.ra.free ∧
      (b.free r).ra.saved = b.ra.saved ∧ (b.free r).ra.maxUsed = b.ra.maxUsed := by
  simp [B.free, RegAlloc.free, h]

/-- a builder with an empty free list -/
abbrev B.at (code : List Op) (n : Nat) (sv : List Nat) (m : Nat) : B := ⟨code, ⟨n, sv, m, []⟩⟩

section
variable {code : List Op} {n : Nat} {sv : List Nat} {m m' : Nat} {b b' : B} {body : List Op}

theorem free_at : (B.at code (n + 1) sv m).free n = B.at code n sv m := by
  simp [B.free, RegAlloc.free]

theorem emit_at (op : Op) : (B.at code n sv m).emit op = B.at (code ++ [op]) n sv m := rfl

/-- the three patching functions at a position whose instruction is known -/
theorem modify_at {pre rest : List Op} {ph : Op} {i : Nat} (f : Op → Op) (hi : i = pre.length) :
    (pre ++ [ph] ++ rest).modify i f = pre ++ [f ph] ++ rest := by
  subst hi
  simp [List.modify_eq_take_cons_drop]

theorem patch_at {pre rest : List Op} {ph : Op} {i : Nat} (hi : i = pre.length) :
    (B.at (pre ++ [ph] ++ rest) n sv m).patch i =
      B.at (pre ++ [retarget ph (pre ++ [ph] ++ rest).length] ++ rest) n sv m := by
  simp only [B.patch, modify_at _ hi]

theorem Agree.none : Agree none none b := .inl ⟨rfl, rfl⟩

theorem Agree.of_some {c : Option (List Op)} (h : Agree (.some b') c b) : ∃ body, c = .some body ∧ Rel b b' body := by
  obtain ⟨h1, _⟩ | ⟨_, body, h1, h2, hr⟩ := h
  · cases h1
  · cases h1; exact ⟨body, h2, hr⟩

theorem Agree.some (m' : Nat) (hb : b' = B.at (code ++ body) n sv m') (hm : m ≤ m') :
    Agree (some b') (some body) (B.at code n sv m) :=
  .inr ⟨b', body, rfl, rfl, hb ▸ ⟨rfl, rfl, rfl, rfl, hm⟩⟩

/-- `alloc` hands out `n` and raises `maxUsed`; by how much does not matter to what follows (any `m₀ ≥ m`) -/
theorem Agree.alloc {f : Reg × B → Option B} {y : Option (List Op)}
    (h : ∀ m₀, m ≤ m₀ → Agree (f (n, B.at code (n + 1) sv m₀)) y b) :
    Agree ((B.at code n sv m).alloc.bind f) (if n = 255 then .none else y) b := by
  rw [alloc_eq _ rfl]
  split
  · exact .none
  · exact h _ (Nat.le_max_left _ _)

/-- sequencing: started from `B.at code n sv m`, `Rel` leaves `B.at (code ++ body) n sv m'`, and the rest
    of the compile function goes on from there -/
theorem Agree.bind {r : Option B} {c : Option (List Op)} {f : B → Option B} {g : List Op → Option (List Op)}
    (h : Agree r c (B.at code n sv m))
    (k : ∀ body m', m ≤ m' → Agree (f (B.at (code ++ body) n sv m')) (g body) b) :
    Agree (r.bind f) (c.bind g) b := by
  rcases h with ⟨rfl, rfl⟩ | ⟨⟨_, _, _, _, _⟩, body, rfl, rfl, hc, hn, hf, hs, hm⟩
  · exact .none
  · simp only at hc hn hf hs
    subst hc hn hf hs
    exact k body _ hm
end

theorem compileE_at : ∀ (e : Expr) (dst : Reg) (code : List Op) (n : Nat) (sv : List Nat) (m base : Nat),
    code.length = base → Agree (compileE e dst (B.at code n sv m)) (codeE e dst n base) (B.at code n sv m)
  | .lit l, dst, code, n, sv, m, base, hb => .some m rfl (Nat.le_refl _)
  | .var x, dst, code, n, sv, m, base, hb => .some m rfl (Nat.le_refl _)
  | .un op e, dst, code, n, sv, m, base, hb => by
    simp only [compileE, codeE, Option.bind_eq_bind, match_eq_bind]
    refine .alloc fun m₀ hm₀ => .bind (code := code) (n := n + 1) (sv := sv) (m := m₀) ?_ fun be m₁ hm₁ =>
      .some m₁ (by simp only [emit_at, free_at, List.append_assoc]) (by omega)
    cases typeofVar? op e with
    | some x => exact .some m₀ rfl (Nat.le_refl _)
    | none => exact compileE_at e n code (n + 1) sv m₀ base hb
  | .bin op l r, dst, code, n, sv, m, base, hb => by
    simp only [compileE, codeE, Option.bind_eq_bind, match_eq_bind]
    refine .alloc fun m₀ hm₀ => .bind (compileE_at l _ _ _ _ _ _ hb) fun bl m₁ hm₁ => ?_
    refine .alloc fun m₂ hm₂ => .bind (compileE_at r _ _ _ _ _ _ (by simp [hb])) fun br m₃ hm₃ => ?_
    exact .some m₃ (by simp only [emit_at, free_at, List.append_assoc]) (by omega)
  | .log op l r, dst, code, n, sv, m, base, hb => by
    simp only [compileE, codeE, Option.bind_eq_bind, match_eq_bind]
    refine .bind (compileE_at l _ _ _ _ _ _ hb) fun bl m₁ hm₁ => ?_
    refine .bind (compileE_at r _ _ _ _ _ _ (by simp +arith [← hb])) fun br m₂ hm₂ => ?_
    exact .some m₂ (by rw [patch_at rfl]; simp +arith [← hb]) (by omega)
  | .cond c t f, dst, code, n, sv, m, base, hb => by
    simp only [compileE, codeE, Option.bind_eq_bind, match_eq_bind]
    refine .alloc fun m₀ hm₀ => .bind (compileE_at c _ _ _ _ _ _ hb) fun bc m₁ hm₁ => ?_
    simp only [emit_at, free_at]
    refine .bind (compileE_at t _ _ _ _ _ _ (by simp +arith [← hb])) fun bt m₂ hm₂ => ?_
    rw [emit_at, List.append_assoc _ bt, patch_at rfl]
    refine .bind (compileE_at f _ _ _ _ _ _ (by simp +arith [← hb])) fun bf m₃ hm₃ => ?_
    refine .some m₃ ?_ (by omega)
    rw [← List.append_assoc _ bt, patch_at (by simp only [List.length_append, List.length_singleton])]
    simp +arith [← hb, retarget]
  | .asg x .assign e, dst, code, n, sv, m, base, hb => by
    simp only [compileE, codeE, Option.bind_eq_bind, match_eq_bind]
    exact .bind (compileE_at e _ _ _ _ _ _ hb) fun be m₁ hm₁ => .some m₁ (by simp only [emit_at, List.append_assoc]) hm₁
  | .asg x (.bin op) e, dst, code, n, sv, m, base, hb => by
    simp only [compileE, codeE, Option.bind_eq_bind, match_eq_bind, emit_at]
    refine .alloc fun m₀ hm₀ => .bind (compileE_at e _ _ _ _ _ _ (by simp [hb])) fun be m₁ hm₁ => ?_
    exact .some m₁ (by simp only [emit_at, free_at, List.append_assoc]; rfl) (by omega)
  | .asg x .andA e, dst, code, n, sv, m, base, hb
  | .asg x .orA e, dst, code, n, sv, m, base, hb
  | .asg x .nullishA e, dst, code, n, sv, m, base, hb => by
    simp only [compileE, codeE, Option.bind_eq_bind, match_eq_bind]
    refine .bind (compileE_at e _ _ _ _ _ _ (by simp [emit_at, hb])) fun be m₁ hm₁ => ?_
    exact .some m₁ (by rw [patch_at rfl]; simp +arith [← hb, emit_at, retarget]) hm₁
  | .seq a c, dst, code, n, sv, m, base, hb => by
    simp only [compileE, codeE, Option.bind_eq_bind, match_eq_bind]
    refine .alloc fun m₀ hm₀ => .bind (compileE_at a _ _ _ _ _ _ hb) fun ba m₁ hm₁ => ?_
    rw [free_at, ← Option.bind_fun_some (compileE c _ _)]
    exact .bind (compileE_at c _ _ _ _ _ _ (by simp [hb])) fun bc m₂ hm₂ => .some m₂ (by simp) (by omega)
  | .upd x inc false, dst, code, n, sv, m, base, hb => by
    simp only [compileE, codeE, Option.bind_eq_bind, emit_at]
    refine .alloc fun m₀ hm₀ => ?_
    simp only [emit_at]
    refine .alloc fun m₁ hm₁ => ?_
    exact .some m₁ (by simp only [emit_at, free_at, List.append_assoc]; rfl) (by omega)
  | .upd x inc true, dst, code, n, sv, m, base, hb => by
    simp only [compileE, codeE, Option.bind_eq_bind, emit_at]
    refine .alloc fun m₀ hm₀ => ?_
    exact .some m₀ (by simp only [emit_at, free_at, List.append_assoc]; rfl) hm₀

/-- `compile_statement_impl` brackets `compileInner` with `save` … `restore` -/
theorem compileS_at {s : Stmt} {code : List Op} {n : Nat} {sv : List Nat} {m base : Nat}
    (ih : ∀ (code : List Op) (n : Nat) (sv : List Nat) (m base : Nat), code.length = base →
      Agree (compileInner s (B.at code n sv m)) (codeS s n base) (B.at code n sv m))
    (hb : code.length = base) : Agree (compileS s (B.at code n sv m)) (codeS s n base) (B.at code n sv m) := by
  simp only [compileS, RegAlloc.save, Option.bind_eq_bind]
  rw [← Option.bind_fun_some (codeS s n base)]
  exact .bind (ih code n (n :: sv) m base hb) fun body m₁ hm₁ => .some m₁ (by simp [RegAlloc.restore]) hm₁

mutual
theorem compileInner_at : ∀ (s : Stmt) (code : List Op) (n : Nat) (sv : List Nat) (m base : Nat),
    code.length = base → Agree (compileInner s (B.at code n sv m)) (codeS s n base) (B.at code n sv m)
  | .expr e, code, n, sv, m, base, hb => by
    simp only [compileInner, codeS, Option.bind_eq_bind]
    rw [← Option.bind_fun_some (codeE e _ _ _)]
    exact .alloc fun m₀ hm₀ => .bind (compileE_at e _ _ _ _ _ _ hb) fun be m₁ hm₁ =>
      .some m₁ (by rw [free_at]) (by omega)
  | .empty, code, n, sv, m, base, hb => by
    simp only [compileInner, codeS]
    exact .some m (by simp) (Nat.le_refl _)
  | .block ss, code, n, sv, m, base, hb => by
    simp only [compileInner, codeS, Option.bind_eq_bind, match_eq_bind]
    exact .bind (compileL_at ss _ _ _ _ _ (by simp [hb])) fun bs m₁ hm₁ => .some m₁ (by simp [emit_at]) hm₁
  | .throw_ e, code, n, sv, m, base, hb => by
    simp only [compileInner, codeS, Option.bind_eq_bind, match_eq_bind]
    exact .alloc fun m₀ hm₀ => .bind (compileE_at e _ _ _ _ _ _ hb) fun be m₁ hm₁ =>
      .some m₁ (by simp only [emit_at, free_at, List.append_assoc]) (by omega)
  | .ite c t none, code, n, sv, m, base, hb => by
    simp only [compileInner, codeS, Option.bind_eq_bind, match_eq_bind]
    refine .alloc fun m₀ hm₀ => .bind (compileE_at c _ _ _ _ _ _ hb) fun bc m₁ hm₁ => ?_
    simp only [emit_at, free_at]
    refine .bind (compileS_at (compileInner_at t) (by simp +arith [← hb])) fun bt m₂ hm₂ => ?_
    exact .some m₂ (by rw [patch_at rfl]; simp +arith [← hb, retarget]) (by omega)
  | .ite c t (some f), code, n, sv, m, base, hb => by
    simp only [compileInner, codeS, Option.bind_eq_bind, match_eq_bind]
    refine .alloc fun m₀ hm₀ => .bind (compileE_at c _ _ _ _ _ _ hb) fun bc m₁ hm₁ => ?_
    simp only [emit_at, free_at]
    refine .bind (compileS_at (compileInner_at t) (by simp +arith [← hb])) fun bt m₂ hm₂ => ?_
    rw [emit_at, List.append_assoc _ bt, patch_at rfl]
    refine .bind (compileS_at (compileInner_at f) (by simp +arith [← hb])) fun bf m₃ hm₃ => ?_
    refine .some m₃ ?_ (by omega)
    rw [← List.append_assoc _ bt, patch_at (by simp only [List.length_append, List.length_singleton])]
    simp +arith [← hb, retarget]
  | .while_ c body, code, n, sv, m, base, hb => by
    simp only [compileInner, codeS, Option.bind_eq_bind, match_eq_bind]
    refine .alloc fun m₀ hm₀ => .bind (compileE_at c _ _ _ _ _ _ hb) fun bc m₁ hm₁ => ?_
    simp only [emit_at, free_at]
    refine .bind (compileS_at (compileInner_at body) (by simp +arith [← hb])) fun bb m₂ hm₂ => ?_
    exact .some m₂ (by rw [emit_at, List.append_assoc _ bb, patch_at rfl]; simp +arith [← hb, retarget]) (by omega)
  | .doWhile body c, code, n, sv, m, base, hb => by
    simp only [compileInner, codeS, Option.bind_eq_bind, match_eq_bind]
    refine .bind (compileS_at (compileInner_at body) hb) fun bb m₁ hm₁ => ?_
    refine .alloc fun m₂ hm₂ => .bind (compileE_at c _ _ _ _ _ _ (by simp [hb])) fun bc m₃ hm₃ => ?_
    exact .some m₃ (by simp [emit_at, free_at, hb]) (by omega)
  | .tryCatch body handler, code, n, sv, m, base, hb => by
    simp only [compileInner, codeS, Option.bind_eq_bind, match_eq_bind]
    refine .bind (compileL_at body _ _ _ _ _ (by simp [emit_at, hb])) fun bb m₁ hm₁ => ?_
    simp only [emit_at]
    refine .bind (compileL_at handler _ _ _ _ _ (by simp +arith [← hb])) fun bh m₂ hm₂ => ?_
    refine .some m₂ ?_ (by omega)
    simp only [B.patchTo, B.patchTry, emit_at]
    -- the three placeholders, each brought to the form `pre ++ [ph] ++ rest` first
    rw [List.append_assoc (_ ++ [Op.jump 0]), List.append_assoc (_ ++ [Op.jump 0]), List.append_assoc (_ ++ [Op.jump 0]),
      modify_at _ rfl]
    simp only [← List.append_assoc]
    rw [← List.append_nil (_ ++ [Op.jump 0]),
      modify_at _ (by simp only [List.length_append, List.length_singleton])]
    simp only [List.append_assoc (code ++ [Op.pushTry 0])]
    rw [modify_at _ rfl]
    simp +arith [← hb, retarget]

theorem compileL_at : ∀ (ss : List Stmt) (code : List Op) (n : Nat) (sv : List Nat) (m base : Nat),
    code.length = base → Agree (compileL ss (B.at code n sv m)) (codeL ss n base) (B.at code n sv m)
  | [], code, n, sv, m, base, hb => by
    simp only [compileL, codeL]
    exact .some m (by simp) (Nat.le_refl _)
  | s :: rest, code, n, sv, m, base, hb => by
    simp only [compileL, codeL, Option.bind_eq_bind, match_eq_bind]
    refine .bind (compileS_at (compileInner_at s) hb) fun b1 m₁ hm₁ => ?_
    rw [← Option.bind_fun_some (compileL rest _)]
    exact .bind (compileL_at rest _ _ _ _ _ (by simp [hb])) fun b2 m₂ hm₂ => .some m₂ (by simp) (by omega)
end

theorem compileE_eq : ∀ (e : Expr) (dst : Reg) (b : B), b.ra.free = [] →
    Agree (compileE e dst b) (codeE e dst b.ra.next b.code.length) b := by
  intro e dst ⟨code, n, sv, m, fr⟩ hf
  cases hf
  exact compileE_at e dst code n sv m _ rfl

theorem compileInner_eq : ∀ (s : Stmt) (b : B), b.ra.free = [] →
    Agree (compileInner s b) (codeS s b.ra.next b.code.length) b := by
  intro s ⟨code, n, sv, m, fr⟩ hf
  cases hf
  exact compileInner_at s code n sv m _ rfl

theorem compileS_eq : ∀ (s : Stmt) (b : B), b.ra.free = [] →
    Agree (compileS s b) (codeS s b.ra.next b.code.length) b := by
  intro s ⟨code, n, sv, m, fr⟩ hf
  cases hf
  exact compileS_at (compileInner_at s) rfl

theorem compileL_eq : ∀ (ss : List Stmt) (b : B), b.ra.free = [] →
    Agree (compileL ss b) (codeL ss b.ra.next b.code.length) b := by
  intro ss ⟨code, n, sv, m, fr⟩ hf
  cases hf
  exact compileL_at ss code n sv m _ rfl

theorem compileProgram_some {s : Stmt} {code : List Op} (hc : compileProgram s = some code) :
    ∃ body, codeS s 0 0 = some body ∧ code = body ++ [.halt] := by
  obtain ⟨b', hb, rfl⟩ := Option.map_eq_some_iff.mp hc
  obtain ⟨body, h2, c1, _⟩ := (hb ▸ compileS_eq s ⟨[], RA.init⟩ rfl).of_some
  exact ⟨body, h2, by rw [c1]; rfl⟩

end TsrunVerif.Compile
