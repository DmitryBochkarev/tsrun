import TsrunVerif.Model.Pratt

/-! Lemmas for M-Pratt: stability of a parse under fuel and table, the fuel-free reading of the three
functions, parse ∘ yield, minimal parenthesisation. -/
namespace TsrunVerif.Pratt

/-- two levels cut the operators at the same place -/
def SameCut (t1 t2 : Tbl) (m1 m2 : Nat) : Prop := ∀ k, t1.prec k < m1 ↔ t2.prec k < m2

theorem SameCut.zero (t1 t2 : Tbl) : SameCut t1 t2 0 0 := fun _ => by simp

theorem sameCut_inner {t1 t2 : Tbl} (h : ∀ a b, t1.prec a < t1.prec b ↔ t2.prec a < t2.prec b)
    (hr : ∀ a, t1.rassoc a = t2.rassoc a) (k : Nat) : SameCut t1 t2 (t1.inner k) (t2.inner k) := by
  intro a
  unfold Tbl.inner
  rw [← hr k]
  cases t1.rassoc k with
  | true => exact h a k
  | false =>
    show t1.prec a < t1.prec k + 1 ↔ t2.prec a < t2.prec k + 1
    rw [Nat.lt_succ_iff, Nat.lt_succ_iff, ← Nat.not_lt, ← Nat.not_lt]
    exact not_congr (h k a)

/-- A successful parse survives more fuel, and a change to a table that orders the operators alike
    (same associativity flags).  Fuel monotonicity is `t1 = t2`; `f = g` both ways round says that
    order-isomorphic tables parse alike. -/
theorem parse_stable {t1 t2 : Tbl} (h : ∀ a b, t1.prec a < t1.prec b ↔ t2.prec a < t2.prec b)
    (hr : ∀ a, t1.rassoc a = t2.rassoc a) : ∀ f g, f ≤ g →
    (∀ m1 m2 ts x, SameCut t1 t2 m1 m2 → parseBin t1 f m1 ts = some x → parseBin t2 g m2 ts = some x) ∧
    (∀ m1 m2 l ts x, SameCut t1 t2 m1 m2 → loop t1 f m1 l ts = some x → loop t2 g m2 l ts = some x) ∧
    (∀ ts x, parseUn t1 f ts = some x → parseUn t2 g ts = some x) := by
  intro f
  induction f with
  | zero => exact fun _ _ => ⟨nofun, nofun, nofun⟩
  | succ f ih =>
    intro g hg
    obtain ⟨g, rfl⟩ : ∃ g', g = g' + 1 := ⟨g - 1, (Nat.sub_add_cancel (Nat.le_trans (Nat.le_add_left 1 f) hg)).symm⟩
    obtain ⟨ihB, ihL, ihU⟩ := ih g (Nat.le_of_succ_le_succ hg)
    refine ⟨?_, ?_, ?_⟩
    · intro m1 m2 ts x hc
      rw [parseBin, parseBin]
      cases hu : parseUn t1 f ts with
      | none => nofun
      | some p => rw [ihU _ _ hu]; exact ihL _ _ _ _ _ hc
    · intro m1 m2 l ts x hc
      match ts with
      | .op k :: rest =>
        rw [loop, loop]
        by_cases hp : t1.prec k < m1
        · simp [hp, (hc k).1 hp]
        · simp only [hp, mt (hc k).2 hp, if_false]
          cases hb : parseBin t1 f (t1.inner k) rest with
          | none => nofun
          | some p => rw [ihB _ _ _ _ (sameCut_inner h hr k) hb]; exact ihL _ _ _ _ _ hc
      | [] | .atom _ :: _ | .pre _ :: _ | .lp :: _ | .rp :: _ => simp [loop]
    · intro ts x
      match ts with
      | .atom n :: rest => exact id
      | .pre u :: rest =>
        rw [parseUn, parseUn]
        cases hu : parseUn t1 f rest with
        | none => nofun
        | some p => rw [ihU _ _ hu]; exact id
      | .lp :: rest =>
        rw [parseUn, parseUn]
        cases hb : parseBin t1 f 0 rest with
        | none => nofun
        | some p => rw [ihB 0 0 _ _ (.zero t1 t2) hb]; exact id
      | [] | .op _ :: _ | .rp :: _ => simp [parseUn]

variable (t : Tbl)

theorem mono {f g : Nat} (hfg : f ≤ g) :
    (∀ {m ts x}, parseBin t f m ts = some x → parseBin t g m ts = some x) ∧
    (∀ {m l ts x}, loop t f m l ts = some x → loop t g m l ts = some x) ∧
    (∀ {ts x}, parseUn t f ts = some x → parseUn t g ts = some x) :=
  have ⟨hB, hL, hU⟩ := parse_stable (t1 := t) (fun _ _ => .rfl) (fun _ => rfl) f g hfg
  ⟨hB _ _ _ _ fun _ => .rfl, hL _ _ _ _ _ fun _ => .rfl, hU _ _⟩

/-- the loop stops in front of `rest` at level `m` -/
def Stops (m : Nat) : List Tok → Prop
  | .op k :: _ => t.prec k < m
  | _ => True

theorem Stops.mono {a b : Nat} (hab : a ≤ b) : ∀ {rest}, Stops t a rest → Stops t b rest
  | .op _ :: _, h => Nat.lt_of_lt_of_le h hab
  | [], _ | .atom _ :: _, _ | .pre _ :: _, _ | .lp :: _, _ | .rp :: _, _ => trivial

/-- left operand of `k` was finished by the loop before `k` -/
def leftCond (k : Nat) : E → Prop
  | .bin k' _ _ => t.prec k < t.inner k'
  | _ => True
/-- right operand of `k` was parsed by `parseBin (inner k)` -/
def rightCond (k : Nat) : E → Prop
  | .bin k' _ _ => t.inner k ≤ t.prec k'
  | _ => True
/-- trees the parser can produce -/
def WF : E → Prop
  | .atom _ => True
  | .paren e => WF e
  | .un _ e => e.isBin = false ∧ WF e
  | .bin k l r => WF l ∧ leftCond t k l ∧ WF r ∧ rightCond t k r
/-- a tree returned by `parseBin` at level `m`: its root, if an operator, binds at least as tightly as `m` -/
def rootCond (m : Nat) : E → Prop
  | .bin k _ _ => m ≤ t.prec k
  | _ => True
/-- what may follow a tree so that the parser returns exactly it -/
def StopsAfter (e : E) (rest : List Tok) : Prop :=
  match e with
  | .bin k _ _ => Stops t (t.inner k) rest
  | _ => True

theorem prec_le_inner (k : Nat) : t.prec k ≤ t.inner k := by
  unfold Tbl.inner; split <;> omega

/-! The side conditions are one notion seen from three places: the root of an operand against a level. -/

theorem rootCond_zero (e : E) : rootCond t 0 e := by cases e <;> simp [rootCond]

theorem rightCond_iff {k : Nat} {e : E} : rightCond t k e ↔ rootCond t (t.inner k) e := by
  cases e <;> exact .rfl

theorem leftCond_iff {k : Nat} {e : E} {rest : List Tok} : leftCond t k e ↔ StopsAfter t e (.op k :: rest) := by
  cases e <;> exact .rfl

theorem rootCond_of_left {k m : Nat} {e : E} (h : leftCond t k e) (hm : m ≤ t.prec k) : rootCond t m e := by
  cases e with
  | bin k' _ _ =>
    have : t.prec k < t.inner k' := h
    show m ≤ t.prec k'
    unfold Tbl.inner at this
    split at this <;> omega
  | _ => trivial

theorem StopsAfter.of_root {m : Nat} {e : E} {rest : List Tok} (hroot : rootCond t m e) (hstop : Stops t m rest) :
    StopsAfter t e rest := by
  cases e with
  | bin k _ _ => exact Stops.mono t (Nat.le_trans hroot (prec_le_inner t k)) hstop
  | _ => trivial

/-! ### the fuel-free reading: `parseBin`, `loop`, `parseUn` give `x` for some (hence all larger) fuel.
The six rules below are the branches of the three functions; the proofs about whole trees use only
them, so that no fuel is counted there. -/

def BinTo (m : Nat) (ts : List Tok) (x : E × List Tok) : Prop := ∃ N, parseBin t N m ts = some x
def LoopTo (m : Nat) (l : E) (ts : List Tok) (x : E × List Tok) : Prop := ∃ N, loop t N m l ts = some x
def UnTo (ts : List Tok) (x : E × List Tok) : Prop := ∃ N, parseUn t N ts = some x

theorem UnTo.atom (n : Nat) (rest : List Tok) : UnTo t (.atom n :: rest) (.atom n, rest) :=
  ⟨1, rfl⟩

theorem UnTo.pre {u : Nat} {rest rest' : List Tok} {e : E} :
    UnTo t rest (e, rest') → UnTo t (.pre u :: rest) (.un u e, rest')
  | ⟨N, h⟩ => ⟨N + 1, by rw [parseUn, h]⟩

theorem UnTo.paren {rest rest' : List Tok} {e : E} :
    BinTo t 0 rest (e, .rp :: rest') → UnTo t (.lp :: rest) (.paren e, rest')
  | ⟨N, h⟩ => ⟨N + 1, by rw [parseUn, h]⟩

theorem BinTo.intro {m : Nat} {ts rest : List Tok} {l : E} {x : E × List Tok} :
    UnTo t ts (l, rest) → LoopTo t m l rest x → BinTo t m ts x
  | ⟨N, hu⟩, ⟨M, hl⟩ => ⟨max N M + 1, by
      rw [parseBin, (mono t (Nat.le_max_left N M)).2.2 hu]
      exact (mono t (Nat.le_max_right N M)).2.1 hl⟩

theorem LoopTo.stop {m : Nat} {l : E} {rest : List Tok} (h : Stops t m rest) : LoopTo t m l rest (l, rest) :=
  ⟨1, by
    match rest, h with
    | .op k :: rest, h => exact if_pos h
    | [], _ | .atom _ :: _, _ | .pre _ :: _, _ | .lp :: _, _ | .rp :: _, _ => rfl⟩

theorem LoopTo.op {m k : Nat} {l r : E} {rest rest' : List Tok} {x : E × List Tok} (hm : m ≤ t.prec k) :
    BinTo t (t.inner k) rest (r, rest') → LoopTo t m (.bin k l r) rest' x → LoopTo t m l (.op k :: rest) x
  | ⟨N, hb⟩, ⟨M, hl⟩ => ⟨max N M + 1, by
      rw [loop, if_neg (Nat.not_lt.mpr hm), (mono t (Nat.le_max_left N M)).1 hb]
      exact (mono t (Nat.le_max_right N M)).2.1 hl⟩

theorem BinTo.fuel {m : Nat} {ts : List Tok} {x : E × List Tok} :
    BinTo t m ts x → ∃ N, ∀ f, N ≤ f → parseBin t f m ts = some x
  | ⟨N, h⟩ => ⟨N, fun _ hf => (mono t hf).1 h⟩

/-- the main lemma: parsing the yield of a well-formed tree `e` at level `m` behaves like the loop
    continued with `e` in hand -/
theorem parse_yield : ∀ e : E, WF t e →
    (e.isBin = false → ∀ rest, UnTo t (yield e ++ rest) (e, rest)) ∧
    (∀ m rest x, rootCond t m e → StopsAfter t e rest → LoopTo t m e rest x →
      BinTo t m (yield e ++ rest) x) := by
  -- a tree that `parseUn` returns is handed to the loop as it is
  have ofUn {e : E} (hU : ∀ rest, UnTo t (yield e ++ rest) (e, rest)) :
      (e.isBin = false → ∀ rest, UnTo t (yield e ++ rest) (e, rest)) ∧
      (∀ m rest x, rootCond t m e → StopsAfter t e rest → LoopTo t m e rest x →
        BinTo t m (yield e ++ rest) x) :=
    ⟨fun _ => hU, fun _ rest _ _ _ hl => .intro t (hU rest) hl⟩
  intro e
  induction e with
  | atom n => exact fun _ => ofUn (.atom t n)
  | paren e ih =>
    intro hwf
    refine ofUn fun rest => ?_
    have := (ih hwf).2 0 (.rp :: rest) _ (rootCond_zero t e) (.of_root t (rootCond_zero t e) trivial)
      (.stop t trivial)
    simpa [yield] using UnTo.paren t this
  | un u e ih =>
    intro ⟨hnb, hwf⟩
    exact ofUn fun rest => .pre t ((ih hwf).1 hnb rest)
  | bin k l r ihl ihr =>
    intro ⟨hwl, hlc, hwr, hrc⟩
    refine ⟨nofun, fun m rest x hroot hstop hl => ?_⟩
    have hrc := (rightCond_iff t).1 hrc
    -- `r` is parsed at level `inner k` and returned as it is, since the loop stops at `rest` there;
    -- so the loop with `l` in hand takes `op k`, then `r`, and goes on with `bin k l r`
    have hr := (ihr hwr).2 _ rest _ hrc (.of_root t hrc hstop) (.stop t hstop)
    have := (ihl hwl).2 m _ x (rootCond_of_left t hlc hroot) ((leftCond_iff t).1 hlc) (.op t hroot hr hl)
    simpa [yield] using this

theorem wrapAt_eq (lvl : Nat) (e : E) : wrapAt t lvl e = e ∨ wrapAt t lvl e = .paren e := by
  unfold wrapAt; repeat' split
  all_goals simp

theorem wrapLeft_eq (k : Nat) (e : E) : wrapLeft t k e = e ∨ wrapLeft t k e = .paren e := by
  unfold wrapLeft; repeat' split
  all_goals simp

theorem erase_wrapAt (lvl : Nat) (e : E) : erase (wrapAt t lvl e) = erase e := by
  obtain h | h := wrapAt_eq t lvl e <;> rw [h]; rfl

theorem erase_wrapLeft (k : Nat) (e : E) : erase (wrapLeft t k e) = erase e := by
  obtain h | h := wrapLeft_eq t k e <;> rw [h]; rfl

theorem wf_wrapAt {lvl : Nat} {e : E} (hw : WF t e) : WF t (wrapAt t lvl e) := by
  obtain h | h := wrapAt_eq t lvl e <;> rw [h] <;> exact hw

theorem wf_wrapLeft {k : Nat} {e : E} (hw : WF t e) : WF t (wrapLeft t k e) := by
  obtain h | h := wrapLeft_eq t k e <;> rw [h] <;> exact hw

theorem rootCond_wrapAt (lvl : Nat) (e : E) : rootCond t lvl (wrapAt t lvl e) := by
  cases e with
  | bin k l r =>
    show rootCond t lvl (if t.prec k < lvl then _ else _)
    split
    · trivial
    · exact Nat.le_of_not_lt ‹_›
  | _ => trivial

theorem leftCond_wrapLeft (k : Nat) (e : E) : leftCond t k (wrapLeft t k e) := by
  cases e with
  | bin k' l r =>
    show leftCond t k (if t.prec k < t.inner k' then _ else _)
    split
    · assumption
    · trivial
  | _ => trivial

theorem erase_parenthesize : ∀ a : A, erase (parenthesize t a) = a := by
  intro a
  induction a with
  | atom n => rfl
  | un u e ih =>
    simp only [parenthesize]
    split <;> simp [erase, ih]
  | bin k l r ihl ihr =>
    simp [parenthesize, erase, erase_wrapAt, erase_wrapLeft, ihl, ihr]

theorem wf_parenthesize : ∀ a : A, WF t (parenthesize t a) := by
  intro a
  induction a with
  | atom n => trivial
  | un u e ih =>
    simp only [parenthesize]
    split
    · exact ⟨rfl, ih⟩
    · exact ⟨Bool.eq_false_iff.2 ‹_›, ih⟩
  | bin k l r ihl ihr =>
    exact ⟨wf_wrapLeft t ihl, leftCond_wrapLeft t k _, wf_wrapAt t ihr,
      (rightCond_iff t).2 (rootCond_wrapAt t _ _)⟩

end TsrunVerif.Pratt
