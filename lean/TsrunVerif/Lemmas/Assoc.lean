/-!
List facts that core Lean lacks: induction from the right, `Pairwise` of a list with one more element at
the end, and lists with distinct keys: finding by key is membership, so lookup in an association list
does not depend on the order of the list.
-/
namespace TsrunVerif

theorem snoc_induction {α : Type _} {motive : List α → Prop} (nil : motive [])
    (snoc : ∀ l a, motive l → motive (l ++ [a])) (l : List α) : motive l := by
  rw [← l.reverse_reverse]
  induction l.reverse with
  | nil => exact nil
  | cons a t ih => rw [List.reverse_cons]; exact snoc _ a ih

theorem pairwise_concat {α : Type _} {R : α → α → Prop} {l : List α} {a : α} :
    (l ++ [a]).Pairwise R ↔ l.Pairwise R ∧ ∀ b ∈ l, R b a := by
  simp only [List.pairwise_append, List.pairwise_singleton, List.mem_singleton, forall_eq, true_and]

/-- in a list with distinct keys, finding by key is membership -/
theorem find?_key_eq_some_iff {α κ : Type _} [BEq κ] [LawfulBEq κ] {key : α → κ} {l : List α}
    (nd : (l.map key).Nodup) {k : κ} {a : α} : l.find? (key · == k) = some a ↔ a ∈ l ∧ key a = k := by
  induction l with
  | nil => simp
  | cons b t ih =>
    rw [List.map_cons, List.nodup_cons, List.mem_map] at nd
    by_cases h : key b = k
    · subst h
      -- `b` is found, and nothing in `t` has its key
      have : a ∈ t → key a ≠ key b := fun ha e => nd.1 ⟨a, ha, e⟩
      simp only [List.find?_cons, beq_self_eq_true, Option.some.injEq, List.mem_cons]
      exact ⟨fun e => e ▸ ⟨.inl rfl, rfl⟩, fun ⟨hm, e⟩ => hm.elim Eq.symm fun ha => absurd e (this ha)⟩
    · have : a = b → key a ≠ k := fun e => e ▸ h
      simp only [List.find?_cons, beq_false_of_ne h, ih nd.2, List.mem_cons]
      exact ⟨fun ⟨hm, e⟩ => ⟨.inr hm, e⟩, fun ⟨hm, e⟩ => ⟨hm.resolve_left fun e' => this e' e, e⟩⟩

/-- (`List.lookup` tests `k == p.1`, `find?` here `p.1 == k`: hence the symmetry of `==`) -/
theorem lookup_eq_find? {α β : Type _} [BEq α] [PartialEquivBEq α] (l : List (α × β)) (k : α) :
    l.lookup k = (l.find? (·.1 == k)).map (·.2) := by
  induction l with
  | nil => rfl
  | cons p t ih => rw [List.lookup_cons, List.find?_cons, BEq.comm, ih]; cases p.1 == k <;> rfl

theorem lookup_eq_some_iff_mem {α β : Type _} [BEq α] [LawfulBEq α] {l : List (α × β)}
    (nd : (l.map Prod.fst).Nodup) (k : α) (v : β) : l.lookup k = some v ↔ (k, v) ∈ l := by
  rw [lookup_eq_find?, Option.map_eq_some_iff]
  exact ⟨fun ⟨p, hp, e⟩ => have ⟨hm, hk⟩ := (find?_key_eq_some_iff nd).mp hp; hk ▸ e ▸ hm,
    fun h => ⟨(k, v), (find?_key_eq_some_iff nd).mpr ⟨h, rfl⟩, rfl⟩⟩

theorem lookup_perm {α β : Type _} [BEq α] [LawfulBEq α] {l₁ l₂ : List (α × β)} (h : l₁.Perm l₂)
    (nd : (l₁.map Prod.fst).Nodup) (k : α) : l₁.lookup k = l₂.lookup k :=
  Option.ext fun v => by
    rw [lookup_eq_some_iff_mem nd, lookup_eq_some_iff_mem ((h.map _).nodup_iff.mp nd), h.mem_iff]

end TsrunVerif
