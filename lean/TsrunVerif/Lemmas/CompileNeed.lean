import TsrunVerif.Lemmas.CompileInv

/-!
Register demand: `need e` is the number of registers above the next free one that compiling `e`
takes at its deepest point.  The compiler refuses exactly when the demand does not fit into the 255
registers a `u8` can name.
-/

namespace TsrunVerif.Compile

def need : Expr → Nat
  | .lit _ => 0
  | .var _ => 0
  | .un op e => match typeofVar? op e with
    | some _ => 1
    | none => 1 + need e
  | .bin _ l r => max (1 + need l) (2 + need r)
  | .log _ l r => max (need l) (need r)
  | .cond c t f => max (1 + need c) (max (need t) (need f))
  | .asg _ .assign e => need e
  | .asg _ (.bin _) e => 1 + need e
  | .asg _ .andA e => need e
  | .asg _ .orA e => need e
  | .asg _ .nullishA e => need e
  | .seq a c => max (1 + need a) (need c)
  | .upd _ _ false => 2
  | .upd _ _ true => 1

mutual
def needS : Stmt → Nat
  | .expr e => 1 + need e
  | .ite c t none => max (1 + need c) (needS t)
  | .ite c t (some f) => max (1 + need c) (max (needS t) (needS f))
  | .while_ c b => max (1 + need c) (needS b)
  | .doWhile b c => max (needS b) (1 + need c)
  | .block ss => needL ss
  | .empty => 0
  | .throw_ e => 1 + need e
  | .tryCatch body handler => max (needL body) (needL handler)
def needL : List Stmt → Nat
  | [] => 0
  | s :: rest => max (needS s) (needL rest)
end

theorem isSome_match {α β : Type} (o : Option α) (f : α → Option β) :
    (match o with | none => none | some a => f a).isSome = true ↔ ∃ a, o = some a ∧ (f a).isSome = true := by
  cases o <;> simp

/-- keeps `max` away from `omega`, which pays for every `max` it meets with a case split -/
theorem add_max_le {n a b c : Nat} : n + max a b ≤ c ↔ n + a ≤ c ∧ n + b ≤ c := by
  rw [← Nat.add_max_add_left, Nat.max_le]

theorem need_asgLog (x : String) (lop : LogOp) (e : Expr) : need (.asg x (.ofLog lop) e) = need e := by
  cases lop <;> rfl

/-! `codeE` is a chain of register checks and `bind`s: it succeeds iff every check passes and every part
    succeeds, whatever the parts produce. -/
section
variable {α β : Type} {p q : Prop}

theorem isSome_bind_iff {o : Option α} {f : α → Option β} (ho : o.isSome = true ↔ p)
    (hf : ∀ a, (f a).isSome = true ↔ q) : (o.bind f).isSome = true ↔ p ∧ q := by
  cases o with
  | none => exact ⟨fun h => (nomatch h), fun h => (nomatch ho.2 h.1)⟩
  | some a => exact (hf a).trans ⟨fun h => ⟨ho.1 rfl, h⟩, And.right⟩

theorem isSome_guard {c : Prop} [Decidable c] {x : Option α} (h : ¬c → (x.isSome = true ↔ p)) :
    (if c then none else x).isSome = true ↔ ¬c ∧ p := by
  split <;> simp_all

theorem isSome_some {a : α} : (some a).isSome = true ↔ True := iff_true_intro rfl

theorem isSome_bind_some {o : Option α} {g : α → β} (ho : o.isSome = true ↔ p) :
    (o.bind fun a => some (g a)).isSome = true ↔ p := by
  cases o <;> exact ho
end

/-- **the compiler refuses exactly when the registers do not suffice** -/
theorem codeE_isSome_iff : ∀ (e : Expr) (dst n base : Nat), n ≤ 255 →
    ((codeE e dst n base).isSome = true ↔ n + need e ≤ 255)
  | .lit l, dst, n, base, hn => iff_of_true rfl hn
  | .var x, dst, n, base, hn => iff_of_true rfl hn
  | .un op e, dst, n, base, hn => by
    simp only [codeE, match_eq_bind, need]
    cases typeofVar? op e with
    | some x => exact (isSome_guard fun h => isSome_some).trans (by simp only [and_true]; omega)
    | none =>
      dsimp only
      refine (isSome_guard fun h => isSome_bind_some (codeE_isSome_iff e n (n + 1) base (by omega))).trans ?_
      omega
  | .bin op l r, dst, n, base, hn => by
    simp only [codeE, match_eq_bind, need]
    refine (isSome_guard fun h => isSome_bind_iff (codeE_isSome_iff l n (n + 1) base (by omega)) fun bl =>
      isSome_guard fun h1 => isSome_bind_some (codeE_isSome_iff r (n + 1) (n + 2) _ (by omega))).trans ?_
    simp only [add_max_le]; omega
  | .log op l r, dst, n, base, hn => by
    simp only [codeE, match_eq_bind, need]
    refine (isSome_bind_iff (codeE_isSome_iff l dst n base hn) fun bl =>
      isSome_bind_some (codeE_isSome_iff r dst n _ hn)).trans ?_
    simp only [add_max_le]
  | .cond c t f, dst, n, base, hn => by
    simp only [codeE, match_eq_bind, need]
    refine (isSome_guard fun h => isSome_bind_iff (codeE_isSome_iff c n (n + 1) base (by omega)) fun bc =>
      isSome_bind_iff (codeE_isSome_iff t dst n _ hn) fun bt =>
        isSome_bind_some (codeE_isSome_iff f dst n _ hn)).trans ?_
    simp only [add_max_le]; omega
  | .asg x .assign e, dst, n, base, hn => by
    simp only [codeE, match_eq_bind, need]
    exact (isSome_bind_some (codeE_isSome_iff e dst n base hn))
  | .asg x (.bin op) e, dst, n, base, hn => by
    simp only [codeE, match_eq_bind, need]
    refine (isSome_guard fun h => isSome_bind_some (codeE_isSome_iff e n (n + 1) _ (by omega))).trans ?_
    omega
  | .asg x .andA e, dst, n, base, hn
  | .asg x .orA e, dst, n, base, hn
  | .asg x .nullishA e, dst, n, base, hn => by
    simp only [codeE, match_eq_bind, need]
    exact (isSome_bind_some (codeE_isSome_iff e dst n _ hn))
  | .seq a c, dst, n, base, hn => by
    simp only [codeE, match_eq_bind, need]
    refine (isSome_guard fun h => isSome_bind_iff (codeE_isSome_iff a n (n + 1) base (by omega)) fun ba =>
      isSome_bind_some (codeE_isSome_iff c dst n _ hn)).trans ?_
    simp only [add_max_le]; omega
  | .upd x inc false, dst, n, base, hn => by
    simp only [codeE, need]
    exact (isSome_guard fun h => isSome_guard fun h1 => isSome_some).trans (by simp only [and_true]; omega)
  | .upd x inc true, dst, n, base, hn => by
    simp only [codeE, need]
    exact (isSome_guard fun h => isSome_some).trans (by simp only [and_true]; omega)

mutual
theorem codeS_isSome_iff : ∀ (s : Stmt) (n base : Nat), n ≤ 255 →
    ((codeS s n base).isSome = true ↔ n + needS s ≤ 255)
  | .expr e, n, base, hn => by
    simp only [codeS, needS]
    refine (isSome_guard fun h => codeE_isSome_iff e n (n + 1) base (by omega)).trans ?_
    omega
  | .ite c t none, n, base, hn => by
    simp only [codeS, match_eq_bind, needS]
    refine (isSome_guard fun h => isSome_bind_iff (codeE_isSome_iff c n (n + 1) base (by omega)) fun bc =>
      isSome_bind_some (codeS_isSome_iff t n _ hn)).trans ?_
    simp only [add_max_le]; omega
  | .ite c t (some f), n, base, hn => by
    simp only [codeS, match_eq_bind, needS]
    refine (isSome_guard fun h => isSome_bind_iff (codeE_isSome_iff c n (n + 1) base (by omega)) fun bc =>
      isSome_bind_iff (codeS_isSome_iff t n _ hn) fun bt => isSome_bind_some (codeS_isSome_iff f n _ hn)).trans ?_
    simp only [add_max_le]; omega
  | .while_ c b, n, base, hn => by
    simp only [codeS, match_eq_bind, needS]
    refine (isSome_guard fun h => isSome_bind_iff (codeE_isSome_iff c n (n + 1) base (by omega)) fun bc =>
      isSome_bind_some (codeS_isSome_iff b n _ hn)).trans ?_
    simp only [add_max_le]; omega
  | .doWhile b c, n, base, hn => by
    simp only [codeS, match_eq_bind, needS]
    refine (isSome_bind_iff (codeS_isSome_iff b n base hn) fun bb =>
      isSome_guard fun h => isSome_bind_some (codeE_isSome_iff c n (n + 1) _ (by omega))).trans ?_
    simp only [add_max_le]; omega
  | .block ss, n, base, hn => by
    simp only [codeS, match_eq_bind, needS]
    exact isSome_bind_some (codeL_isSome_iff ss n _ hn)
  | .empty, n, base, hn => by
    simp only [codeS, needS]
    exact iff_of_true rfl hn
  | .throw_ e, n, base, hn => by
    simp only [codeS, match_eq_bind, needS]
    refine (isSome_guard fun h => isSome_bind_some (codeE_isSome_iff e n (n + 1) base (by omega))).trans ?_
    omega
  | .tryCatch body handler, n, base, hn => by
    simp only [codeS, match_eq_bind, needS]
    refine (isSome_bind_iff (codeL_isSome_iff body n _ hn) fun bb =>
      isSome_bind_some (codeL_isSome_iff handler n _ hn)).trans ?_
    simp only [add_max_le]

theorem codeL_isSome_iff : ∀ (ss : List Stmt) (n base : Nat), n ≤ 255 →
    ((codeL ss n base).isSome = true ↔ n + needL ss ≤ 255)
  | [], n, base, hn => by
    simp only [codeL, needL]
    exact iff_of_true rfl hn
  | s :: rest, n, base, hn => by
    simp only [codeL, match_eq_bind, needL]
    refine (isSome_bind_iff (codeS_isSome_iff s n base hn) fun b1 =>
      isSome_bind_some (codeL_isSome_iff rest n _ hn)).trans ?_
    simp only [add_max_le]
end

/-- an addition chain nested to the right, `a + (a + (a + … ))`, `d` levels -/
def rightNested : Nat → Expr
  | 0 => .var "a"
  | d + 1 => .bin .add (.var "a") (rightNested d)

theorem need_rightNested : ∀ d, need (rightNested d) = 2 * d
  | 0 => by simp [rightNested, need]
  | d + 1 => by simp [rightNested, need, need_rightNested d]; omega

/-- an addition chain nested to the left, `((a + 1) + 1) + …`, `d` levels -/
def leftNested : Nat → Expr
  | 0 => .var "a"
  | d + 1 => .bin .add (leftNested d) (.lit (.num 1))

theorem need_leftNested : ∀ d, need (leftNested d) = if d = 0 then 0 else d + 1
  | 0 => by simp [leftNested, need]
  | d + 1 => by
    simp [leftNested, need, need_leftNested d]
    split <;> omega

end TsrunVerif.Compile
