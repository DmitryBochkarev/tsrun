import TsrunVerif.Lemmas.Compile

/-!
Statements: the VM with handler dispatch (`stepH`) simulates `evalS` on the code `codeS` describes,
for every fuel (loop iteration bound), including `throw` and `try … catch`.
-/

namespace TsrunVerif.Compile

section
variable {V Err : Type} (sem : Sem V Err)

/-- steps of the VM with handler dispatch -/
inductive StepsH (C : List Op) : St V → St V → Prop where
  | refl (s : St V) : StepsH C s s
  | cons {s s' s'' : St V} : stepH sem C s = .next s' → StepsH C s' s'' → StepsH C s s''

theorem StepsH.trans {C : List Op} {a b c : St V} (h₁ : StepsH sem C a b) (h₂ : StepsH sem C b c) : StepsH sem C a c := by
  induction h₁ with
  | refl => exact h₂
  | cons hs _ ih => exact .cons hs (ih h₂)

theorem stepH_of_next {C : List Op} {a b : St V} (h : step sem C a = .next b) : stepH sem C a = .next b := by
  unfold stepH; rw [h]

instance (C : List Op) : RunRel sem C (StepsH sem C) :=
  ⟨.refl, StepsH.trans sem, fun h => .cons (stepH_of_next sem h) (.refl _)⟩

/-- the VM reaches an instruction that raises `er` with the try stack as it was -/
def ThrowsH (C : List Op) (base : Nat) (regs : Reg → V) (env : Env V) (H : List Nat) (er : Err) (env' : Env V) : Prop :=
  ∃ pc regs', StepsH sem C ⟨base, regs, env, H⟩ ⟨pc, regs', env', H⟩ ∧
    step sem C ⟨pc, regs', env', H⟩ = .throw er ⟨pc, regs', env', H⟩

/-- `codeE_ok` over the dispatching VM -/
theorem codeE_okH (e : Expr) (dst n base : Nat) (body : List Op) (hc : codeE e dst n base = some body) (hd : dst < n)
    (C : List Op) (emb : Embeds C base body) (regs : Reg → V) (env : Env V) (H : List Nat) :
    (∀ v env', evalE sem e env = .ok v env' → ∃ regs', StepsH sem C ⟨base, regs, env, H⟩ ⟨base + body.length, regs', env', H⟩ ∧
        regs' dst = v ∧ ∀ r, r < n → r ≠ dst → regs' r = regs r) ∧
    (∀ er env', evalE sem e env = .thrown er env' → ThrowsH sem C base regs env H er env') := by
  have h := codeE_sim sem (R := StepsH sem C) e dst n base body hc hd emb regs env H
  exact ⟨fun v env' hv => by rw [hv] at h; exact h, fun er env' hv => by rw [hv] at h; exact h⟩

/-- the VM reaches the end of the statement's code (with the try stack as it was) -/
def DoneS (C : List Op) (base len : Nat) (regs : Reg → V) (env : Env V) (H : List Nat) (env' : Env V) : Prop :=
  ∃ regs', StepsH sem C ⟨base, regs, env, H⟩ ⟨base + len, regs', env', H⟩

/-- `try`: what `o` throws, `h` handles -/
def catchR (o : Option (Res V Err Unit)) (h : Env V → Option (Res V Err Unit)) : Option (Res V Err Unit) :=
  match o with
  | some (.thrown _ env) => h env
  | r => r

/-! `evalS` / `evalL` read as sequences.  (`conv => lhs`: a plain `unfold evalS` would also unfold the calls on the
right-hand side, on a variable statement, into the whole `match`.) -/

theorem evalS_expr (fuel : Nat) (e : Expr) (env : Env V) :
    evalS sem fuel (.expr e) env = bindR (some (evalE sem e env)) fun _ env => some (.ok () env) := by
  unfold evalS
  cases evalE sem e env <;> rfl

theorem evalS_ite (fuel : Nat) (c : Expr) (t : Stmt) (f : Option Stmt) (env : Env V) :
    evalS sem fuel (.ite c t f) env = bindR (some (evalE sem c env)) fun a env =>
      if sem.truthy a then evalS sem fuel t env else
        match f with
        | some f => evalS sem fuel f env
        | none => some (.ok () env) := by
  conv => lhs; unfold evalS
  cases evalE sem c env <;> rfl

theorem evalS_while (fuel : Nat) (c : Expr) (b : Stmt) (env : Env V) :
    evalS sem (fuel + 1) (.while_ c b) env = bindR (some (evalE sem c env)) fun a env =>
      if sem.truthy a then bindR (evalS sem fuel b env) fun _ env => evalS sem fuel (.while_ c b) env
      else some (.ok () env) := by
  conv => lhs; unfold evalS
  cases evalE sem c env <;> simp only [bindR_ok, bindR_thrown]
  split
  · rcases evalS sem fuel b _ with _ | _ | _ <;> rfl
  · rfl

theorem evalS_doWhile (fuel : Nat) (b : Stmt) (c : Expr) (env : Env V) :
    evalS sem (fuel + 1) (.doWhile b c) env = bindR (evalS sem fuel b env) fun _ env =>
      bindR (some (evalE sem c env)) fun a env =>
        if sem.truthy a then evalS sem fuel (.doWhile b c) env else some (.ok () env) := by
  conv => lhs; unfold evalS; whnf
  generalize evalS sem fuel b env = r
  rcases r with _ | _ | _
  · rfl
  · simp only [bindR_ok]; cases evalE sem c _ <;> rfl
  · rfl

theorem evalS_throw (fuel : Nat) (e : Expr) (env : Env V) :
    evalS sem fuel (.throw_ e) env = bindR (some (evalE sem e env)) fun v env => some (.thrown (sem.ofVal v) env) := by
  unfold evalS
  cases evalE sem e env <;> rfl

theorem evalS_tryCatch (fuel : Nat) (tb hb : List Stmt) (env : Env V) :
    evalS sem fuel (.tryCatch tb hb) env = catchR (evalL sem fuel tb env) fun env => evalL sem fuel hb env := by
  conv => lhs; unfold evalS
  rcases evalL sem fuel tb env with _ | _ | _ <;> rfl

theorem evalL_cons (fuel : Nat) (s : Stmt) (rest : List Stmt) (env : Env V) :
    evalL sem fuel (s :: rest) env = bindR (evalS sem fuel s env) fun _ env => evalL sem fuel rest env := by
  conv => lhs; unfold evalL
  rcases evalS sem fuel s env with _ | _ | _ <;> rfl

variable {C : List Op} {s : St V} {pc' pc₁ : Nat} {H : List Nat}

variable {sem} in
/-- `try` with catch target `t` (where the handler's `pushScope` sits): a raise inside the block, under
    the try stack `t :: H`, is dispatched to `t` with the stack `H` -/
theorem Mirrors.tryCatch {o : Option (Res V Err Unit)} {h : Env V → Option (Res V Err Unit)} {t : Nat}
    {Q₁ Q : (Reg → V) → Unit → Prop} (ht : C[t]? = some .pushScope)
    (hb : Mirrors sem C (StepsH sem C) s pc₁ (t :: H) Q₁ o)
    (hok : ∀ u env₁ regs₁, Q₁ regs₁ u →
      Mirrors sem C (StepsH sem C) ⟨pc₁, regs₁, env₁, t :: H⟩ pc' H Q (some (.ok u env₁)))
    (hh : ∀ regs₁ env₁, Mirrors sem C (StepsH sem C) ⟨t + 1, regs₁, env₁, H⟩ pc' H Q (h env₁)) :
    Mirrors sem C (StepsH sem C) s pc' H Q (catchR o h) :=
  match o, hb with
  | none, _ => trivial
  | some (.ok u env₁), ⟨regs₁, h₁, hq⟩ => (hok u env₁ regs₁ hq).after h₁
  | some (.thrown er env₁), ⟨pc, regs₁, h₁, hthrow⟩ =>
    ((hh regs₁ env₁).step ht rfl).after (h₁.trans sem (.cons (by unfold stepH; rw [hthrow]) (.refl _)))

/-- by induction over the emitted code; the two loops by an inner induction on the fuel.  Nothing is said of the
    registers (`Q` is `True`): a statement's temporaries are all freed before a sub-statement runs -/
theorem codeS_sim {C : List Op} :
    (∀ s n base body, codeS s n base = some body → Embeds C base body → ∀ fuel regs env H,
      Mirrors sem C (StepsH sem C) ⟨base, regs, env, H⟩ (base + body.length) H (fun _ _ => True) (evalS sem fuel s env)) ∧
    (∀ ss n base body, codeL ss n base = some body → Embeds C base body → ∀ fuel regs env H,
      Mirrors sem C (StepsH sem C) ⟨base, regs, env, H⟩ (base + body.length) H (fun _ _ => True) (evalL sem fuel ss env)) := by
  apply codeS_induct
  case expr =>
    intro e n base be hn he emb fuel regs env H
    rw [evalS_expr]
    exact .bind (codeE_sim sem e n (n + 1) base be he n.lt_succ_self emb regs env H) fun _ _ _ _ => .ret rfl trivial
  case ite =>
    intro c t n base bc bt hn hc ht iht emb fuel regs env H
    rw [evalS_ite]
    refine .bind (codeE_sim sem c n (n + 1) base bc hc n.lt_succ_self emb.left regs env H) fun _ env₁ regs₁ ⟨rfl, _⟩ => ?_
    refine .branch emb.right.head rfl ?_ (.ret (by simp +arith) trivial)
    exact (iht emb.right.tail fuel regs₁ env₁ H).andThen fun _ _ _ _ => .ret (by simp +arith) trivial
  case iteElse =>
    intro c t f n base bc bt bf hn hc ht hf iht ihf emb fuel regs env H
    rw [evalS_ite]
    refine .bind (codeE_sim sem c n (n + 1) base bc hc n.lt_succ_self emb.left regs env H) fun _ env₁ regs₁ ⟨rfl, _⟩ => ?_
    refine .branch emb.right.head rfl ?_ ?_
    · refine (iht emb.right.tail.left fuel regs₁ env₁ H).andThen fun _ _ _ _ => ?_
      exact .step emb.right.tail.right.head rfl (.ret (by simp +arith) trivial)
    · exact (ihf emb.right.tail.right.tail fuel regs₁ env₁ H).andThen fun _ _ _ _ => .ret (by simp +arith) trivial
  case while_ =>
    intro c b n base bc bb hn hc hb ihb emb fuel
    induction fuel with
    | zero => intro regs env H; unfold evalS; trivial
    | succ fuel ihw =>
      intro regs env H
      rw [evalS_while]
      refine .bind (codeE_sim sem c n (n + 1) base bc hc n.lt_succ_self emb.left regs env H) fun _ env₁ regs₁ ⟨rfl, _⟩ => ?_
      refine .branch emb.right.head rfl ?_ (.ret (by simp +arith) trivial)
      refine .bind (ihb emb.right.tail.left fuel regs₁ env₁ H) fun _ env₂ regs₂ _ => ?_
      exact .step emb.right.tail.right.head rfl (ihw regs₂ env₂ H)
  case doWhile =>
    intro b c n base bb bc hn hb hc ihb emb fuel
    rw [List.append_assoc] at emb
    induction fuel with
    | zero => intro regs env H; unfold evalS; trivial
    | succ fuel ihw =>
      intro regs env H
      rw [evalS_doWhile]
      refine .bind (ihb emb.left fuel regs env H) fun _ env₁ regs₁ _ => ?_
      refine .bind (codeE_sim sem c n (n + 1) _ bc hc n.lt_succ_self emb.right.left regs₁ env₁ H) fun _ env₂ regs₂ ⟨rfl, _⟩ => ?_
      exact .branch emb.right.right.head rfl (ihw regs₂ env₂ H) (.ret (by simp +arith) trivial)
  case block =>
    intro ss n base bs hs ih emb fuel regs env H
    unfold evalS
    refine .step emb.head rfl ((ih emb.tail.left fuel regs env H).andThen fun _ _ _ _ => ?_)
    exact .step emb.tail.right.head rfl (.ret (by simp +arith) trivial)
  case empty =>
    intro n base emb fuel regs env H
    unfold evalS
    exact .ret rfl trivial
  case throw_ =>
    intro e n base be hn he emb fuel regs env H
    rw [evalS_throw]
    refine .bind (codeE_sim sem e n (n + 1) base be he n.lt_succ_self emb.left regs env H) fun v env₁ regs₁ h₁ => ?_
    exact .throw emb.right.head (by rw [← h₁.1]; rfl)
  case tryCatch =>
    intro tb hb n base bb bh htb hhb ihb ihh emb fuel regs env H
    have rest := emb.tail.tail.right
    rw [evalS_tryCatch]
    refine .step emb.head rfl (.step (emb.get 1 rfl) rfl ?_)
    refine .tryCatch (rest.get 3 rfl) (ihb emb.tail.tail.left fuel regs env _) (fun _ env₁ regs₁ _ => ?_) fun regs₁ env₁ => ?_
    · exact .step rest.head rfl (.step (rest.get 1 rfl) rfl (.step (rest.get 2 rfl) rfl (.ret (by simp +arith) trivial)))
    · have rest₂ := rest.tail.tail.tail.tail
      refine (ihh rest₂.left fuel regs₁ env₁ H).andThen fun _ _ _ _ => ?_
      exact .step rest₂.right.head rfl (.step (rest₂.right.get 1 rfl) rfl (.ret (by simp +arith) trivial))
  case nil =>
    intro n base emb fuel regs env H
    unfold evalL
    exact .ret rfl trivial
  case cons =>
    intro s rest n base b1 b2 h1 h2 ih1 ih2 emb fuel regs env H
    rw [evalL_cons]
    refine .bind (ih1 emb.left fuel regs env H) fun _ env₁ regs₁ _ => ?_
    exact (ih2 emb.right fuel regs₁ env₁ H).andThen fun _ _ _ _ => .ret (by simp +arith) trivial

theorem Mirrors.doneS {C : List Op} {base len : Nat} {regs : Reg → V} {env : Env V} {H : List Nat} {o : Option (Res V Err Unit)}
    (h : Mirrors sem C (StepsH sem C) ⟨base, regs, env, H⟩ (base + len) H (fun _ _ => True) o) :
    (∀ u env', o = some (.ok u env') → DoneS sem C base len regs env H env') ∧
    (∀ er env', o = some (.thrown er env') → ThrowsH sem C base regs env H er env') :=
  ⟨fun u env' ho => by subst ho; exact h.imp fun _ h => h.1, fun er env' ho => by subst ho; exact h⟩

theorem codeS_ok : ∀ (fuel : Nat) (s : Stmt) (n base : Nat) (body : List Op), codeS s n base = some body →
    ∀ C, Embeds C base body → ∀ (regs : Reg → V) (env : Env V) (H : List Nat),
    (∀ u env', evalS sem fuel s env = some (.ok u env') → DoneS sem C base body.length regs env H env') ∧
    (∀ er env', evalS sem fuel s env = some (.thrown er env') → ThrowsH sem C base regs env H er env') :=
  fun fuel s n base body hc _ emb regs env H => ((codeS_sim sem).1 s n base body hc emb fuel regs env H).doneS

theorem codeL_ok : ∀ (fuel : Nat) (ss : List Stmt) (n base : Nat) (body : List Op), codeL ss n base = some body →
    ∀ C, Embeds C base body → ∀ (regs : Reg → V) (env : Env V) (H : List Nat),
    (∀ u env', evalL sem fuel ss env = some (.ok u env') → DoneS sem C base body.length regs env H env') ∧
    (∀ er env', evalL sem fuel ss env = some (.thrown er env') → ThrowsH sem C base regs env H er env') :=
  fun fuel ss n base body hc _ emb regs env H => ((codeS_sim sem).2 ss n base body hc emb fuel regs env H).doneS

end
end TsrunVerif.Compile
