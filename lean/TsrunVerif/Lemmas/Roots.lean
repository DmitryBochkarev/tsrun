import TsrunVerif.Model.Roots

/-! The scope-guard stack holds exactly one guard per open scope and per call frame: the invariant of
M-Roots, kept by every event.  C14 reads the balance of a finished run off it, C11 carries it through
the interpreter's lifecycle. -/
namespace TsrunVerif.Roots

/-- `env_guards.len()` = base + open scopes + call frames -/
def Inv (base : Nat) (s : St) : Prop := s.guards = base + expected s

/-- an event that drops `r` guards and closes scopes and frames worth `r` keeps the balance: under
the invariant the model's truncated subtraction never truncates. -/
theorem Inv.release {base r : Nat} {s s' : St} (h : Inv base s)
    (hg : s'.guards = s.guards - r) (he : expected s = expected s' + r) : Inv base s' := by
  rw [Inv, hg, h, he, ← Nat.add_assoc, Nat.add_sub_cancel]

theorem inv_step (base : Nat) (s : St) (e : Ev) (h : Inv base s) : Inv base (step s e) := by
  -- a return releases the frame's open scopes and its own guard; at top level only the scopes
  have hret : Inv base (step s .ret) := by
    simp only [step]
    split
    · exact h.release (r := s.cur + 1) (Nat.sub_sub ..)
        (by simp only [expected, *, List.sum_cons, List.length_cons]; omega)
    · exact h.release (r := s.cur) rfl (by simp only [expected, *, List.sum_nil, List.length_nil]; omega)
  cases e with
  | pushScope => simp only [Inv, expected, step] at h ⊢; omega
  | call => simp only [Inv, expected, step, List.sum_cons, List.length_cons] at h ⊢; omega
  | popScope =>
    simp only [step]
    split
    · exact h
    · exact h.release (r := 1) rfl (by simp only [expected]; omega)
  | ret | unwindFrame => exact hret  -- an exception leaving the frame moves the state as a return does
  | leaveTo d =>
    simp only [step]
    split
    · exact h.release (r := s.cur - d) rfl (by simp only [expected]; omega)
    · exact h
  | uncaught =>
    exact h.release (r := s.cur + (s.frames.sum + s.frames.length)) (Nat.sub_sub ..)
      (by simp only [expected, step, List.sum_nil, List.length_nil]; omega)

theorem Inv.guards_of_done {base : Nat} {s : St} (h : Inv base s) (hc : s.cur = 0) (hf : s.frames = []) :
    s.guards = base := by
  simpa [Inv, expected, hc, hf] using h

theorem inv_run (base : Nat) (evs : List Ev) : ∀ s, Inv base s → Inv base (run s evs) :=
  fun _ h => List.foldlRecOn evs step h fun s h e _ => inv_step base s e h

end TsrunVerif.Roots
