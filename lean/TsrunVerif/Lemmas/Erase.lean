import TsrunVerif.Model.Erase
/-! Lemmas for M-Erase: erasure yields plain programs and fixes plain programs.  Both facts hold
constructor by constructor, by unfolding `strip…` and `plain…` and using the induction hypotheses, so
each is proved once for a whole family of mutually recursive functions, along the recursion of the
`strip…` functions (`stripE.mutual_induct`, `stripMember.mutual_induct`); the statements per syntactic
category are read off.  The conjuncts stand in the order of the motives of these principles: expressions,
properties, expression lists; members, statement lists, statements, member lists. -/
namespace TsrunVerif.Erase

theorem plain_stripParam (p : Param) : plainParam (stripParam p) = true := by
  simp [plainParam, stripParam]

theorem stripParam_of_plain {p : Param} (h : plainParam p = true) : stripParam p = p := by
  cases p
  simp_all [plainParam, stripParam]

theorem map_stripParam_of_plain {ps : List Param} (h : ∀ p ∈ ps, plainParam p = true) :
    ps.map stripParam = ps := by
  rw [List.map_congr_left fun p hp => stripParam_of_plain (h p hp), List.map_id']

theorem plainRet_iff {r : Ret} : plainRet r = true ↔ r = .none := by
  cases r <;> simp [plainRet]

theorem plainMods_iff {m : Mods} : plainMods m = true ↔ m = noMods := by
  cases m
  simp [plainMods, noMods, and_assoc]

theorem plain_strip_exprs : (∀ e, plainE (stripE e) = true) ∧ (∀ ps, plainPs (stripPs ps) = true) ∧
    (∀ es, plainEs (stripEs es) = true) := by
  apply stripE.mutual_induct <;> intros <;>
    simp [stripE, stripEs, stripPs, plainE, plainEs, plainPs, plainRet, plain_stripParam, *]

theorem plain_stripE : ∀ e : Expr, plainE (stripE e) = true := plain_strip_exprs.1
theorem plain_stripEs : ∀ es : List Expr, plainEs (stripEs es) = true := plain_strip_exprs.2.2
theorem plain_stripPs : ∀ ps : List (String × Expr), plainPs (stripPs ps) = true := plain_strip_exprs.2.1

-- the equations are turned round so that `simp_all` substitutes the erased member / statement
theorem plain_strip_stmts :
    (∀ m m', some m' = stripMember m → plainMember m' = true) ∧ (∀ ss, plainSs (stripSs ss) = true) ∧
    (∀ s s', some s' = stripS s → plainS s' = true) ∧ (∀ ms, plainMs (stripMs ms) = true) := by
  apply stripMember.mutual_induct <;> intros <;>
    simp_all [stripMember, stripMs, stripS, stripSs, plainMember, plainMs, plainS, plainSs, plainMods, noMods,
      plainRet, plain_stripParam, plain_stripE]

theorem plain_stripMember : ∀ (m m' : Member), stripMember m = some m' → plainMember m' = true :=
  fun m m' h => plain_strip_stmts.1 m m' h.symm
theorem plain_stripMs : ∀ ms : List Member, plainMs (stripMs ms) = true := plain_strip_stmts.2.2.2
theorem plain_stripS : ∀ (s s' : Stmt), stripS s = some s' → plainS s' = true :=
  fun s s' h => plain_strip_stmts.2.2.1 s s' h.symm
theorem plain_stripSs : ∀ ss : List Stmt, plainSs (stripSs ss) = true := plain_strip_stmts.2.1

theorem strip_exprs_of_plain : (∀ e, plainE e = true → stripE e = e) ∧
    (∀ ps, plainPs ps = true → stripPs ps = ps) ∧ (∀ es, plainEs es = true → stripEs es = es) := by
  apply stripE.mutual_induct <;> intros <;>
    simp_all [stripE, stripEs, stripPs, plainE, plainEs, plainPs, plainRet_iff, map_stripParam_of_plain]

theorem stripE_of_plain : ∀ e : Expr, plainE e = true → stripE e = e := strip_exprs_of_plain.1
theorem stripEs_of_plain : ∀ es : List Expr, plainEs es = true → stripEs es = es := strip_exprs_of_plain.2.2
theorem stripPs_of_plain : ∀ ps : List (String × Expr), plainPs ps = true → stripPs ps = ps :=
  strip_exprs_of_plain.2.1

theorem strip_stmts_of_plain :
    (∀ m, plainMember m = true → stripMember m = some m) ∧ (∀ ss, plainSs ss = true → stripSs ss = ss) ∧
    (∀ s, plainS s = true → stripS s = some s) ∧ (∀ ms, plainMs ms = true → stripMs ms = ms) := by
  apply stripMember.mutual_induct <;> intros <;>
    simp_all [stripMember, stripMs, stripS, stripSs, plainMember, plainMs, plainS, plainSs, plainMods_iff,
      plainRet_iff, map_stripParam_of_plain, stripE_of_plain]

theorem stripMember_of_plain : ∀ m : Member, plainMember m = true → stripMember m = some m :=
  strip_stmts_of_plain.1
theorem stripMs_of_plain : ∀ ms : List Member, plainMs ms = true → stripMs ms = ms := strip_stmts_of_plain.2.2.2
theorem stripS_of_plain : ∀ s : Stmt, plainS s = true → stripS s = some s := strip_stmts_of_plain.2.2.1
theorem stripSs_of_plain : ∀ ss : List Stmt, plainSs ss = true → stripSs ss = ss := strip_stmts_of_plain.2.1

end TsrunVerif.Erase
